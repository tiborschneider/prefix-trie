import PT.Lemmas.MutRefs
import PT.Lemmas.Union
/-!
# C05 — Union yields each prefix of either operand once, in order, correctly tagged

`SetOps.union a b` is the index machine of `Union::next` / `UnionMut::next` started from the real
nodes `a`, `b` of the two views (any well-formed subtrees: whole maps, sub-tries at stored, branching
or virtual nodes, equal / nested / disjoint roots, any two value types).  `UItem.view` is what
`UnionItem` (resp. the `union_mut` tuple) exposes.  `unionS` is the sorted merge of the two entry
lists: both lists are strictly ascending in the key order (C03), a key found in both gives one
`both` item reporting the left operand's stored prefix, other keys give `left` / `right` items.
-/
namespace PT.C05
open SetOps
variable {w : Nat} {L R : Type}

/-- union = sorted merge of the two entry lists, with the annotations of C08 -/
theorem union_spec (a : Tree w L) (b : Tree w R) (hwa : HasWF a) (hwb : HasWF b) :
    (union a b).filterMap UItem.view =
      unionS (annOf b.slotEntries none) (annOf a.slotEntries none) a.slotEntries b.slotEntries :=
  union_eq a b hwa hwb

/-- the machine never yields an item without a value on either side (`get_next` returns `None` for
a value-less pair and the loop continues) -/
theorem uItem_has_value (p : Pfx w) (l : Option (Nat × L)) (r : Option (Nat × R)) (aL : Lpm w L) (aR : Lpm w R)
    (i : UItem w L R) (h : uItem p l r aL aR = some i) : i.l.isSome ∨ i.r.isSome := by
  unfold uItem at h
  cases l <;> cases r <;> simp at h <;> subst h <;> simp

theorem unionS_key_mem (fL : Pfx w → Lpm w R) (fR : Pfx w → Lpm w L) (A : KL w L) (B : KL w R) :
    ∀ u ∈ unionS fL fR A B, (∃ x ∈ A, keyOf x = u.key) ∨ (∃ y ∈ B, keyOf y = u.key) := by
  intro u hu
  rcases mem_unionS hu with ⟨a, ha, rfl⟩ | ⟨b, hb, rfl⟩ | ⟨a, ha, b, hb, hk, rfl⟩
  · exact .inl ⟨a, ha, rfl⟩
  · exact .inr ⟨b, hb, rfl⟩
  · exact .inl ⟨a, ha, rfl⟩

theorem unionS_forall_key {fL : Pfx w → Lpm w R} {fR : Pfx w → Lpm w L} {A : KL w L} {B : KL w R} {P : List Bool → Prop}
    (hA : ∀ x ∈ A, P (keyOf x)) (hB : ∀ y ∈ B, P (keyOf y)) : ∀ u ∈ unionS fL fR A B, P u.key :=
  fun u hu => (unionS_key_mem _ _ _ _ u hu).elim (fun ⟨x, hx, hk⟩ => hk ▸ hA x hx) (fun ⟨y, hy, hk⟩ => hk ▸ hB y hy)

/-- the merge of two ascending lists is ascending: one item per key, in lexicographic order -/
theorem unionS_pairwise (fL : Pfx w → Lpm w R) (fR : Pfx w → Lpm w L) (A : KL w L) (B : KL w R)
    (hA : A.Pairwise (fun x y => Spec.keyLt (keyOf x) (keyOf y) = true))
    (hB : B.Pairwise (fun x y => Spec.keyLt (keyOf x) (keyOf y) = true)) :
    (unionS fL fR A B).Pairwise (fun x y => Spec.keyLt x.key y.key = true) := by
  fun_induction unionS fL fR A B with
  | case1 bs => rw [List.pairwise_map]; exact hB
  | case2 a as => rw [List.pairwise_map]; exact hA
  | case3 a as b bs h ih =>
    rw [List.pairwise_cons] at hA hB
    exact List.pairwise_cons.2 ⟨unionS_forall_key (P := fun k => Spec.keyLt (keyOf a) k = true) hA.1
      (fun y hy => h ▸ hB.1 y hy), ih hA.2 hB.2⟩
  | case4 a as b bs h1 h2 ih =>
    rw [List.pairwise_cons] at hA
    exact List.pairwise_cons.2 ⟨unionS_forall_key (P := fun k => Spec.keyLt (keyOf a) k = true) hA.1
      (List.forall_mem_cons.2 ⟨h2, fun y hy => Spec.keyLt_trans h2 ((List.pairwise_cons.1 hB).1 y hy)⟩), ih hA.2 hB⟩
  | case5 a as b bs h1 h2 ih =>
    have hba := Spec.keyLt_total h1 (Bool.eq_false_iff.2 h2)
    rw [List.pairwise_cons] at hB
    exact List.pairwise_cons.2 ⟨unionS_forall_key (P := fun k => Spec.keyLt (keyOf b) k = true)
      (List.forall_mem_cons.2 ⟨hba, fun x hx => Spec.keyLt_trans hba ((List.pairwise_cons.1 hA).1 x hx)⟩) hB.1, ih hA hB.2⟩

theorem unionS_sorted (fL : Pfx w → Lpm w R) (fR : Pfx w → Lpm w L) :
    ∀ (n : Nat) (A : KL w L) (B : KL w R), A.length + B.length ≤ n →
    A.Pairwise (fun x y => Spec.keyLt (keyOf x) (keyOf y) = true) →
    B.Pairwise (fun x y => Spec.keyLt (keyOf x) (keyOf y) = true) →
    (unionS fL fR A B).Pairwise (fun x y => Spec.keyLt x.key y.key = true) ∧
    ∀ u ∈ unionS fL fR A B, (∃ x ∈ A, keyOf x = u.key) ∨ (∃ y ∈ B, keyOf y = u.key) :=
  fun _ A B _ hA hB => ⟨unionS_pairwise fL fR A B hA hB, unionS_key_mem fL fR A B⟩

theorem slotEntries_sorted {t : Tree w L} (h : HasWF t) :
    t.slotEntries.Pairwise (fun x y => Spec.keyLt (keyOf x) (keyOf y) = true) := h.slotEntries_keyLt

/-- union yields its items in strictly ascending lexicographic order (so each prefix at most once) -/
theorem union_sorted (a : Tree w L) (b : Tree w R) (hwa : HasWF a) (hwb : HasWF b) :
    ((union a b).filterMap UItem.view).Pairwise (fun x y => Spec.keyLt x.key y.key = true) := by
  rw [union_spec a b hwa hwb]
  exact unionS_pairwise _ _ _ _ (slotEntries_sorted hwa) (slotEntries_sorted hwb)


/-- which stored representation an item reports: a one-sided item the representation stored on its
side, a `Both` item the one stored in the **left** operand (one of the two stored representations);
the values (and slots) are those stored under that key on the respective sides -/
theorem unionS_item_repr (fL : Pfx w → Lpm w R) (fR : Pfx w → Lpm w L) :
    ∀ (n : Nat) (A : KL w L) (B : KL w R), A.length + B.length ≤ n → ∀ u ∈ unionS fL fR A B,
      (match u with
       | .left p l _ => (l.1, p, l.2) ∈ A
       | .right p _ r => (r.1, p, r.2) ∈ B
       | .both p l r => (l.1, p, l.2) ∈ A ∧ ∃ pr, (r.1, pr, r.2) ∈ B ∧ pr.net = p.net) := by
  intro n A B _ u hu
  rcases mem_unionS hu with ⟨a, ha, rfl⟩ | ⟨b, hb, rfl⟩ | ⟨a, ha, b, hb, hk, rfl⟩
  · exact ha
  · exact hb
  · exact ⟨ha, b.2.1, hb, hk.symm⟩

/-- the same for the machine: every item of `union a b` reports a representation stored in an operand -/
theorem union_item_repr (a : Tree w L) (b : Tree w R) (hwa : HasWF a) (hwb : HasWF b) :
    ∀ u ∈ (union a b).filterMap UItem.view,
      (match u with
       | .left p l _ => (l.1, p, l.2) ∈ a.slotEntries
       | .right p _ r => (r.1, p, r.2) ∈ b.slotEntries
       | .both p l r => (l.1, p, l.2) ∈ a.slotEntries ∧ ∃ pr, (r.1, pr, r.2) ∈ b.slotEntries ∧ pr.net = p.net) := by
  rw [union_spec a b hwa hwb]
  exact unionS_item_repr _ _ _ _ _ (Nat.le_refl _)


/-- exactly one item per stored prefix: projecting the items to their left (right) components gives
back the left (right) operand's entry slots — every entry of either view appears in exactly one item -/
theorem union_projections (a : Tree w L) (b : Tree w R) (hwa : HasWF a) (hwb : HasWF b) :
    ((union a b).filterMap UItem.view).filterMap UV.lslot = a.slotEntries.map (·.1) ∧
    ((union a b).filterMap UItem.view).filterMap UV.rslot = b.slotEntries.map (·.1) := by
  rw [union_spec a b hwa hwb]
  exact unionS_lslots _ _ _ _

def UV.isBoth : UV w L R → Bool
  | .both _ _ _ => true
  | _ => false

/-- counting law of the merge: every entry of either list is accounted for by exactly one item,
a `both` item accounting for two entries -/
theorem unionS_length (fL : Pfx w → Lpm w R) (fR : Pfx w → Lpm w L) (A : KL w L) (B : KL w R) :
    (unionS fL fR A B).length + (unionS fL fR A B).countP UV.isBoth = A.length + B.length := by
  fun_induction unionS fL fR A B with
  | case1 bs =>
    rw [List.countP_map, show UV.isBoth ∘ mkRight fR = fun _ => false from rfl, List.countP_false, List.length_map]
    exact (Nat.zero_add _).symm
  | case2 a as =>
    rw [List.countP_map, show UV.isBoth ∘ mkLeft fL = fun _ => false from rfl, List.countP_false, List.length_map]
    rfl
  | case3 a as b bs h ih =>
    simp only [List.length_cons, List.countP_cons, UV.isBoth, ite_true]; omega
  | case4 a as b bs h1 h2 ih =>
    simp only [List.length_cons, List.countP_cons, mkLeft, UV.isBoth, Bool.false_eq_true, ite_false] at ih ⊢; omega
  | case5 a as b bs h1 h2 ih =>
    simp only [List.length_cons, List.countP_cons, mkRight, UV.isBoth, Bool.false_eq_true, ite_false] at ih ⊢; omega

/-- `|union(a, b)| + #Both = |a| + |b|` -/
theorem union_length (a : Tree w L) (b : Tree w R) (hwa : HasWF a) (hwb : HasWF b) :
    ((union a b).filterMap UItem.view).length + ((union a b).filterMap UItem.view).countP UV.isBoth
      = a.slotEntries.length + b.slotEntries.length := by
  rw [union_spec a b hwa hwb]; exact unionS_length _ _ _ _

end PT.C05
