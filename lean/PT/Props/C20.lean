import PT.Lemmas.Reach
import PT.Lemmas.RetainFold
/-!
# C20 — No panic, overflow or divergence on valid input; user panics keep the map valid

What is a theorem here.  *Termination*: every model function is accepted by Lean's termination
checker (structural recursion, or the stack measure of `iterNext`), so every operation and every
iterator drain takes finitely many steps on every finite tree.  *No counter underflow*: whenever an
operation decrements `count`, the invariant makes it positive.  *Valid prefixes never overflow a
shift* (C17: `maskFromLenRaw`).  *User panics*: a `retain` whose predicate panics at its k-th call
leaves a state satisfying the full invariant, holding exactly the old entries minus those already
rejected.  *Indices in bounds*: every slot in a child link or in the free list is below the arena length.
Not theorems, established by correspondence only: that a panicking `or_insert_with` / `insert_with`
closure leaves the map untouched (the closure runs before the map is modified; the model has no closures),
and the absence of Rust panics (`unwrap`, index, `unreachable!`) as such: every harness call runs under
`catch_unwind`, in debug and release builds.
-/
namespace PT.C20
open Tree PMap
variable {w : Nat} {V : Type}

/-- every `next()` call strictly shrinks the stack measure: iterators yield finitely many items -/
theorem iter_terminates (st : List (Tree w V)) (it : Nat × Pfx w × V) (st' : List (Tree w V))
    (h : iterNext st = some (it, st')) : stackSize st' < stackSize st := iterNext_decreases st it st' h

/-- the number of items of a drain is bounded by the number of nodes under the start node -/
theorem iter_length_le (t : Tree w V) : (iterAll [t]).length ≤ t.size := by
  rw [iterAll_root]
  induction t with
  | nil => simp [Tree.entries, Tree.size]
  | node s p v l r ihl ihr =>
    rw [entries_node]; cases v <;> simp [own, Tree.size] <;> omega

/-- the counter decrement of `remove`, `remove_keep_tree`, `OccupiedEntry::remove` never underflows -/
theorem no_underflow {m : PMap w V} (h : m.Inv) (q : Pfx w) (hq : (m.get q).isSome = true) : 0 < m.count :=
  h.count_pos hq

/-- a `retain` interrupted by a panic of its predicate at call `k` leaves a well-formed,
size-consistent map with a consistent slot partition … -/
theorem retain_panic_inv {m : PMap w V} (h : m.Inv) (f : Pfx w → V → Bool) (k : Nat) :
    (m.retain f (some k)).Inv := retain_inv h f (some k)

/-- … that contains exactly the entries it held before minus those the predicate had already
rejected (the first `k-1` calls, made on the entries in post-order) -/
theorem retain_panic_entries {m : PMap w V} (h : m.Inv) (f : Pfx w → V → Bool) (k : Nat) (e : Pfx w × V) :
    e ∈ (m.retain f (some k)).entries ↔
      e ∈ m.entries ∧ ∀ c ∈ m.root.postorder.take (k - 1), f c.1 c.2 = false → e.1.net ≠ c.1.net :=
  foldl_retainStep_mem h.tree f _ e

/-- the predicate is evaluated exactly once per stored entry: the call sequence is a permutation of
the entry list -/
theorem retain_calls_perm (m : PMap w V) : (m.retainCalls none).Perm m.entries := postorder_perm m.root

/-- every state reachable by any history (including interrupted `retain`s) satisfies the invariant -/
theorem invariant_always (ops : List (Op w V)) : (run ops (PMap.empty : PMap w V)).Inv := run_inv ops


/-- no out-of-bounds index: in every reachable state every node index stored in a child link (the
slots of the tree) and every index waiting in the free list is below the arena length, so
`self.table[idx]` and the slot returned by `free.pop()` in `new_node` are always in range -/
theorem indices_in_bounds (ops : List (Op w V)) :
    (∀ s ∈ (run ops (PMap.empty : PMap w V)).root.slots, s < (run ops (PMap.empty : PMap w V)).alloc) ∧
    (∀ s ∈ (run ops (PMap.empty : PMap w V)).free, s < (run ops (PMap.empty : PMap w V)).alloc) := by
  have h := fun (s : Nat) hs => List.mem_range.1 ((run_inv (w := w) (V := V) ops).perm.mem_iff (a := s) |>.1 hs)
  exact ⟨fun s hs => h s (List.mem_append_left _ hs), fun s hs => h s (List.mem_append_right _ hs)⟩

end PT.C20
