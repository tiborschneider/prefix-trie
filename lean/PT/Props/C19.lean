import PT.Lemmas.Refine
/-!
# C19 — Equality, clone and round-trips depend only on the stored entries

`==` is modelled as equality of the entry lists (`beq_iff`); since the listing of a well-formed tree is
determined by its entry set, rebuilding a map from its entries in any order gives an equal map.
-/
namespace PT.C19
open Tree PMap
variable {w : Nat} {V : Type} [DecidableEq V]

/-- `==` holds exactly when the two maps store the same sequence of (stored prefix, value) pairs —
stored prefix under the key type's own equality (host bits included) — whatever their shapes -/
theorem beq_iff (a b : PMap w V) : a.beq b = true ↔ a.entries = b.entries := by
  unfold PMap.beq; simp

theorem beq_refl (a : PMap w V) : a.beq a = true := (beq_iff a a).2 rfl
theorem beq_symm (a b : PMap w V) : a.beq b = b.beq a := by
  rw [Bool.eq_iff_iff, beq_iff, beq_iff]; exact eq_comm
theorem beq_trans (a b c : PMap w V) (h1 : a.beq b = true) (h2 : b.beq c = true) : a.beq c = true :=
  (beq_iff a c).2 (((beq_iff a b).1 h1).trans ((beq_iff b c).1 h2))

/-- a map never equals one with additional or fewer entries (in particular the empty map equals
only maps without entries) -/
theorem beq_false_of_length_ne (a b : PMap w V) (h : a.entries.length ≠ b.entries.length) : a.beq b = false := by
  rw [Bool.eq_false_iff]; intro hb; exact h (congrArg List.length ((beq_iff a b).1 hb))

theorem beq_empty_iff (a : PMap w V) : a.beq PMap.empty = true ↔ a.entries = [] := beq_iff a _

/-- equality is decided by the entries and the iteration order is canonical: two well-formed maps
holding the same *set* of entries are equal, regardless of histories and tree shapes -/
theorem beq_of_same_entry_set {a b : PMap w V} (ha : a.TreeWF) (hb : b.TreeWF)
    (h : ∀ e, e ∈ a.entries ↔ e ∈ b.entries) : a.beq b = true :=
  (beq_iff a b).2 (entries_eq_of_mem_iff ha.wf hb.wf h)

/-- `clone()` is the identity on model states, hence equal to the original -/
theorem clone_eq (a : PMap w V) : a.beq a = true := beq_refl a

/-- rebuilding a map from its own entries (`collect`) yields an equal map … -/
theorem collect_self {m : PMap w V} (h : m.TreeWF) : (PMap.collect m.entries).beq m = true :=
  (beq_iff _ _).2 (collect_entries_of_mem h _ fun _ => Iff.rfl)

/-- … in whatever order the entries are fed back (the serde round trip goes through a `HashMap`,
which only permutes them) -/
theorem collect_perm {m : PMap w V} (h : m.TreeWF) (xs : List (Pfx w × V)) (hp : xs.Perm m.entries) :
    (PMap.collect xs).beq m = true :=
  (beq_iff _ _).2 (collect_entries_of_mem h xs fun _ => hp.mem_iff)

end PT.C19
