import PT.Lemmas.Refine
import PT.Lemmas.Map
/-!
# C02 — Longest-prefix match returns the most specific covering entry

`covering t q` = the entries of `t` whose prefix covers `q`, in the order of the entry list.
-/
namespace PT.C02
open Tree
variable {w : Nat} {V : Type}

/-- `get_lpm` (and `get_lpm_prefix`, `get_lpm_mut`, the set's `get_lpm`, which run the same descent)
returns the last covering entry of the pre-order entry list … -/
theorem getLpm_eq {m : PMap w V} (h : m.TreeWF) (q : Pfx w) :
    m.getLpm q = (covering m.root q).getLast? :=
  PMap.getLpm_eq_covering h q

/-- … which is a stored entry that covers `q` … -/
theorem getLpm_mem {m : PMap w V} (h : m.TreeWF) (q : Pfx w) (e : Pfx w × V) (he : m.getLpm q = some e) :
    e ∈ m.entries ∧ e.1.contains q = true :=
  have := covering_getLast h.wf (getLpm_eq h q ▸ he)
  ⟨this.1, this.2.1⟩

/-- … of the greatest length among the stored entries covering `q` (`q` itself included) … -/
theorem getLpm_longest {m : PMap w V} (h : m.TreeWF) (q : Pfx w) (e : Pfx w × V) (he : m.getLpm q = some e)
    (e' : Pfx w × V) (h1 : e' ∈ m.entries) (h2 : e'.1.contains q = true) : e'.1.len ≤ e.1.len :=
  (covering_getLast h.wf (getLpm_eq h q ▸ he)).2.2 e' h1 h2

/-- … and `None` exactly when no stored prefix covers `q` -/
theorem getLpm_none_iff {m : PMap w V} (h : m.TreeWF) (q : Pfx w) :
    m.getLpm q = none ↔ ∀ e ∈ m.entries, e.1.contains q = false := by
  rw [getLpm_eq h, List.getLast?_eq_none_iff, covering, List.filter_eq_nil_iff]
  exact forall₂_congr fun e _ => Bool.not_eq_true _ ▸ Iff.rfl

/-- the answer depends only on the stored entries, never on the shape left behind by removals -/
theorem getLpm_shape_independent {m1 m2 : PMap w V} (h1 : m1.TreeWF) (h2 : m2.TreeWF)
    (he : m1.entries = m2.entries) (q : Pfx w) : m1.getLpm q = m2.getLpm q := by
  rw [PMap.getLpm_refines h1, PMap.getLpm_refines h2, he]

theorem getLpmPrefix_eq (m : PMap w V) (q : Pfx w) : m.getLpmPrefix q = (m.getLpm q).map (·.1) := rfl

/-- `get_lpm` computes the specification's arg-max (`Spec.lpm`: fold `pickLonger` over the covering
entries of the abstract map) -/
theorem getLpm_eq_spec {m : PMap w V} (h : m.TreeWF) (q : Pfx w) : m.getLpm q = Spec.lpm m.entries q :=
  PMap.getLpm_refines h q

end PT.C02
