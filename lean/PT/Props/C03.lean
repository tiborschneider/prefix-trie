import PT.Lemmas.NumOrder
import PT.Lemmas.Order
import PT.Lemmas.Map
/-!
# C03 — Every iterator yields each entry exactly once in lexicographic prefix order

`iter`, `keys`, `values`, `iter_mut`, `values_mut`, `into_iter`, `into_keys`, `into_values`,
`&map`, the set iterators: one `next()` body (`Tree.iterNext`), started from the stack `[root]`.
-/
namespace PT.C03
open Tree
variable {w : Nat} {V : Type}

/-- a full traversal yields exactly the stored entries (pre-order of the valued nodes): every
entry, nothing else -/
theorem iter_eq_entries (m : PMap w V) : m.iter = m.entries := iterAll_root m.root

/-- … in strictly ascending lexicographic key order: a prefix precedes everything it covers and the
0-branch precedes the 1-branch … -/
theorem iter_sorted {m : PMap w V} (h : m.TreeWF) :
    m.iter.Pairwise (fun a b => Spec.keyLt a.1.net b.1.net = true) := by
  rw [iter_eq_entries]; exact entries_sorted h.wf

/-- … hence each entry (indeed each key) exactly once -/
theorem iter_keys_nodup {m : PMap w V} (h : m.TreeWF) : (m.iter.map (fun e => e.1.net)).Nodup := by
  rw [iter_eq_entries]; exact entries_keys_nodup h.wf

/-- independent of insertion order, removals and tree shape: the listing is determined by the set
of stored entries -/
theorem iter_history_independent {m1 m2 : PMap w V} (h1 : m1.TreeWF) (h2 : m2.TreeWF)
    (h : ∀ e, e ∈ m1.entries ↔ e ∈ m2.entries) : m1.iter = m2.iter := by
  rw [iter_eq_entries, iter_eq_entries]; exact entries_eq_of_mem_iff h1.wf h2.wf h

/-- an empty stack yields `None`; with `drained_stays_drained`, a drained iterator stays drained -/
theorem fused : iterNext ([] : List (Tree w V)) = none := iterNext_nil

theorem drained_stays_drained (st : List (Tree w V)) (h : iterNext st = none) : iterAll st = [] := by
  rw [iterAll_eq, iterNext_spec, h]

/-- a clone taken after `k` items continues exactly like the original: items so far ++ rest = all -/
theorem clone_continues (m : PMap w V) (k : Nat) :
    (iterTake k [m.root]).1 ++ iterAll (iterTake k [m.root]).2 = m.entries := by
  rw [iterTake_append, iterAll_root]; rfl

/-- sub-tree iteration (`children`, view iterators) from any node: that node's entries -/
theorem iter_from_node (t : Tree w V) : iterAll [t] = t.entries := iterAll_root t

/-- `Iter::default()`: the empty stack yields nothing -/
theorem default_iter_empty : iterAll ([] : List (Tree w V)) = [] := by
  rw [iterAll_eq]; rfl


/-- the order in the property's own words: ascending by network address (`mask()` as an unsigned
integer) and, for equal addresses, by prefix length -/
theorem iter_sorted_numeric {m : PMap w V} (h : m.TreeWF) :
    m.iter.Pairwise (fun a b => a.1.mask.toNat < b.1.mask.toNat ∨ (a.1.mask = b.1.mask ∧ a.1.len < b.1.len)) :=
  (iter_sorted h).imp (fun {a b} hab => (Pfx.keyLt_iff_numeric a.1 b.1).1 hab)

/-- the two readings of the order coincide for all prefixes (host bits arbitrary) -/
theorem order_numeric_iff (a b : Pfx w) :
    Spec.keyLt a.net b.net = true ↔ a.mask.toNat < b.mask.toNat ∨ (a.mask = b.mask ∧ a.len < b.len) :=
  Pfx.keyLt_iff_numeric a b

end PT.C03
