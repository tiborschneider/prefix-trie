import PT.Lemmas.Writes
import PT.Lemmas.ViewComm
import PT.Lemmas.MutRefs
import PT.Lemmas.Union
import PT.Props.C06
import PT.Props.C07
/-!
# C14 — Mutable access is exclusive: live mutable references never alias an entry

Three parts (DESIGN.md §3, row C14).  (a) *Distinctness*, theorem: the references handed out by one
mutable traversal, by traversals of the two sides of a split view, and by a `*_mut` set operation over
two operands with disjoint slots, point to pairwise distinct slots.  (b) *Compile-time rejection* of
aliasing programs and of non-thread-safe values crossing threads is a statement about rustc, not about the
model: it is decided by the capability corpus (generated client programs compiled against /repo: ill-moded
ones must be rejected, well-moded ones accepted; the Send/Sync matrix), see `vlib/cap.py`.
(c) *Concurrent = sequential*, theorem: writes through references to distinct slots commute, so every
interleaving of two write sequences on disjoint sub-views yields the state of their concatenation; likewise
for `set` / `remove` through views, entry counter included.
-/
namespace PT.C14
open Tree
variable {w : Nat} {V : Type}

/-- all `&mut` handed out by one mutable iterator point to pairwise distinct nodes -/
theorem iter_mut_distinct {m : PMap w V} (h : m.Inv) : ((iterAllS [m.root]).map (·.1)).Nodup := by
  rw [iterAllS_root]
  have := h.slots_nodup
  exact ((List.nodup_append.1 this).1).sublist (slotEntries_slots_sublist m.root)

/-- the same for an iterator over any sub-view (any node of the tree) -/
theorem view_iter_mut_distinct {t : Tree w V} (hnd : t.slots.Nodup) (path : List Bool) :
    ((iterAllS [t.sub path]).map (·.1)).Nodup := by
  rw [iterAllS_root]
  exact (hnd.sublist (slots_sub_sublist t path)).sublist (slotEntries_slots_sublist _)

/-- the two sides of a node (`split()`, `left()`, `right()`) own disjoint sets of slots: no reference
obtained through one side can alias one obtained through the other (nor the node's own value) -/
theorem split_disjoint {s : Nat} {p : Pfx w} {v : Option V} {l r : Tree w V}
    (hnd : (Tree.node s p v l r).slots.Nodup) :
    (∀ a ∈ l.slots, a ∉ r.slots) ∧ s ∉ l.slots ∧ s ∉ r.slots := by
  simp only [Tree.slots, List.nodup_cons, List.mem_append, not_or, List.nodup_append] at hnd
  exact ⟨fun a ha hb => hnd.2.2.2 a ha a hb rfl, hnd.1.1, hnd.1.2⟩

/-- writes through references to distinct entries commute -/
theorem writes_commute (t : Tree w V) (k1 k2 : Nat) (f g : V → V) (h : k1 ≠ k2) :
    (t.modifySlot k1 f).modifySlot k2 g = (t.modifySlot k2 g).modifySlot k1 f := modifySlot_comm t h f g

/-- mutating disjoint sub-views concurrently (any interleaving `ws` of the two threads' write
sequences `w1`, `w2`) produces the same final map as doing so sequentially -/
theorem concurrent_eq_sequential (t : Tree w V) (w1 w2 ws : List (Nat × (V → V)))
    (hi : Interleave w1 w2 ws) (hdis : ∀ x ∈ w1, ∀ y ∈ w2, x.1 ≠ y.1) :
    applyWrites t ws = applyWrites (applyWrites t w1) w2 := by
  rw [interleave_eq_append t hi hdis, applyWrites_append]

/-- non-vacuity: an interleaving exists for any two sequences -/
example (a b : Nat × (Nat → Nat)) : Interleave [a] [b] [b, a] := .right (.left .nil)

/-! ### references handed out by the `*_mut` set operations

Items carry the slot of every node whose value they lend mutably (`l.1`, `r.1`, `v.1`).  `a`, `b`: the
real nodes of the two operand views.  The hypothesis `(a.slots ++ b.slots).Nodup` is about two views of one
map: for the two sides `l`, `r` of a node it is `(List.nodup_cons.1 hnd).2` of the node's `slots.Nodup`
(`split_disjoint` says the same element by element).  Slots of two different maps index different arenas. -/

open SetOps in
/-- `union_mut`: every valued node of each operand is lent exactly once — left references are exactly
the left operand's entries, right references the right operand's -/
theorem union_mut_refs {L R : Type} (a : Tree w L) (b : Tree w R) (hwa : HasWF a) (hwb : HasWF b) :
    ((union a b).filterMap UItem.view).filterMap UV.lslot = a.slotEntries.map (·.1) ∧
    ((union a b).filterMap UItem.view).filterMap UV.rslot = b.slotEntries.map (·.1) := by
  rw [union_eq a b hwa hwb]
  exact unionS_lslots _ _ _ _

open SetOps in
/-- … and, the operands' slots being disjoint, no node is lent twice -/
theorem union_mut_refs_distinct {L R : Type} (a : Tree w L) (b : Tree w R) (hwa : HasWF a) (hwb : HasWF b)
    (hnd : (a.slots ++ b.slots).Nodup) :
    (((union a b).filterMap UItem.view).filterMap UV.lslot ++
      ((union a b).filterMap UItem.view).filterMap UV.rslot).Nodup := by
  obtain ⟨h1, h2⟩ := union_mut_refs a b hwa hwb
  rw [h1, h2]
  exact ((slotEntries_slots_sublist a).append (slotEntries_slots_sublist b)).nodup hnd

open SetOps in
/-- `intersection_mut`: all references of all items, both sides, are pairwise distinct -/
theorem intersection_mut_refs_distinct {L R : Type} (a : Tree w L) (b : Tree w R) (hwa : HasWF a) (hwb : HasWF b)
    (hnd : (a.slots ++ b.slots).Nodup) :
    ((intersection a b).map (fun it => it.l.1) ++ (intersection a b).map (fun it => it.r.1)).Nodup := by
  have hna : a.slots.Nodup := (List.nodup_append.1 hnd).1
  have hnb : b.slots.Nodup := (List.nodup_append.1 hnd).2.1
  have hl : ((intersection a b).map (fun it => it.l.1)).Sublist (a.slotEntries.map (·.1)) := by
    have := (PT.C06.intersection_order a b hwa hwb).map (·.1)
    simpa [List.map_map, Function.comp_def] using this
  have hr : ((intersection a b).map (fun it => it.r.1)).Nodup := by
    rw [PT.C06.intersection_spec a b hwa hwb]
    exact interS_rslots_nodup _ _ (slotEntries_keys_distinct hwa) (slotEntries_slots_nodup hnb)
  refine append_nodup_of_sub (hl.nodup (slotEntries_slots_nodup hna)) hr ?_ ?_ hnd
  · intro x hx
    exact (slotEntries_slots_sublist a).subset (hl.subset hx)
  · intro y hy
    obtain ⟨it, hit, rfl⟩ := List.mem_map.1 hy
    obtain ⟨_, pb, hb, _⟩ := PT.C06.intersection_sound a b hwa hwb it hit
    exact slotEntries_slot_mem b _ hb

open SetOps in
/-- `difference_mut` / `covering_difference_mut`: each selected left entry is lent once -/
theorem difference_mut_refs_distinct {L R : Type} (a : Tree w L) (b : Tree w R) (hwa : HasWF a) (hwb : HasWF b)
    (hna : a.slots.Nodup) :
    ((difference a b).map (fun it => it.v.1)).Nodup ∧ ((coveringDifference a b).map (fun it => it.v.1)).Nodup := by
  constructor
  · have := (PT.C07.difference_order a b hwa hwb).map (·.1)
    simp only [List.map_map, Function.comp_def] at this
    exact this.nodup (slotEntries_slots_nodup hna)
  · have := (PT.C07.coveringDifference_order a b hwa hwb).map (·.1)
    simp only [List.map_map, Function.comp_def] at this
    exact this.nodup (slotEntries_slots_nodup hna)

/-- `TrieViewMut::set` / `remove` on a view at a real node are writes of that node's value slot -/
theorem view_set_remove_are_writes (m : PMap w V) (v : View w) (x : V) (hv : v.virt = none) :
    (m.viewSet v x).1 = m.writeAt v.path (some x) ∧ (m.viewRemove v).1 = m.writeAt v.path none :=
  ⟨PMap.viewSet_eq_writeAt hv x, PMap.viewRemove_eq_writeAt hv⟩

/-- mutating disjoint sub-views concurrently by `set` / `remove` (which also move the shared entry
counter): every interleaving `ws` of the two threads' write sequences `w1`, `w2` — addressing different
existing nodes — ends in the same map, **entry counter included**, as `w1` followed by `w2` -/
theorem view_set_remove_concurrent_eq_sequential {m : PMap w V} (h : m.Inv) (w1 w2 ws : List (List Bool × Option V))
    (hi : Tree.Interleave w1 w2 ws)
    (h1 : ∀ x ∈ w1, (m.root.sub x.1).isNil = false) (h2 : ∀ y ∈ w2, (m.root.sub y.1).isNil = false)
    (hdis : ∀ x ∈ w1, ∀ y ∈ w2, x.1 ≠ y.1) :
    PMap.applyViewWrites m ws = PMap.applyViewWrites m (w1 ++ w2) :=
  PMap.view_writes_interleave h hi h1 h2 hdis

end PT.C14
