import PT.Lemmas.Writes
import PT.Lemmas.Inv
/-!
# C13 — Mutable traversals mirror read-only ones and writes land exactly there

In the model a mutable traversal *is* the read-only traversal plus the slot of each yielded node
(`Tree.iterAllS` vs `Tree.iterAll`; the set-operation machines carry the slots in their items), so
"same prefixes and values in the same order" holds by construction for the model; that the Rust
twins (`Iter` / `IterMut`, `Union` / `UnionMut`, …), which are separate code, agree is what the
correspondence runs establish.  The theorems below are about where a write lands.
-/
namespace PT.C13
open Tree
variable {w : Nat} {V : Type}

/-- the items a mutable traversal hands out are those of the read-only traversal, in order -/
theorem iter_mut_mirrors (st : List (Tree w V)) : (iterAllS st).map (·.2) = iterAll st := rfl

/-- `iter_mut` / `values_mut` / `children_mut` / view `iter_mut`: the valued nodes in pre-order -/
theorem iter_mut_items (t : Tree w V) : iterAllS [t] = t.slotEntries := iterAllS_root t

/-- a write through any yielded reference (slot `k`) changes the value of exactly that item; every
other item, all prefixes and the order are untouched … -/
theorem write_lands {m : PMap w V} (h : m.Inv) (k : Nat) (f : V → V) :
    (m.root.modifySlot k f).slotEntries =
      m.root.slotEntries.map (fun it => if it.1 = k then (it.1, it.2.1, f it.2.2) else it) := by
  apply slotEntries_modifySlot
  have := h.slots_nodup
  exact (List.nodup_append.1 this).1

/-- … the set of stored prefixes (keys and representations) is unchanged … -/
theorem write_keeps_prefixes {m : PMap w V} (h : m.Inv) (k : Nat) (f : V → V) :
    (m.root.modifySlot k f).entries.map (·.1) = m.root.entries.map (·.1) := by
  rw [← slotEntries_snd, ← slotEntries_snd, write_lands h]
  simp only [List.map_map]
  apply List.map_congr_left
  intro it _
  simp only [Function.comp]
  split <;> rfl

/-- … and so is the tree shape -/
theorem write_keeps_shape (t : Tree w V) (k : Nat) (f : V → V) :
    PT.C15.skel (t.modifySlot k f) = PT.C15.skel t := skel_modifySlot t k f

theorem modifySlot_wf {k : List Bool} {t : Tree w V} (h : Tree.WF k t) (s : Nat) (f : V → V) :
    Tree.WF k (t.modifySlot s f) := h.of_skel (skel_modifySlot t s f)

/-- the invariant survives (shape, counter, slot partition), so every later read through any API —
all of which are functions of the tree — sees the written value and nothing else changed -/
theorem write_preserves_inv {m : PMap w V} (h : m.Inv) (k : Nat) (f : V → V) :
    ({ m with root := m.root.modifySlot k f } : PMap w V).Inv := by
  refine h.of_skel (skel_modifySlot m.root k f) ?_
  have := congrArg List.length (write_keeps_prefixes h k f)
  simp only [List.length_map] at this
  rw [h.count]; exact this.symm

/-- `get_mut(q)` / `Entry::get_mut` / `and_modify`: the write changes exactly the entry with key `q` -/
theorem get_mut_write {m : PMap w V} (h : m.TreeWF) (q : Pfx w) (f : V → V) (e : Pfx w × V) :
    e ∈ (m.modify q f).entries ↔
      (e ∈ m.entries ∧ e.1.net ≠ q.net) ∨ (∃ x, (e.1, x) ∈ m.entries ∧ e.1.net = q.net ∧ e.2 = f x) :=
  modifyValue_mem h.wf q f e

end PT.C13
