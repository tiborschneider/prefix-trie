import PT.Lemmas.CanonViews
import PT.Lemmas.Views
import PT.Lemmas.Reach
/-!
# C11 — A view addresses exactly the entries under its prefix; left/right split by bit

`TrieView` and `TrieViewMut` share one model (`View`): `ViewLoc::Node` = `virt = none`,
`ViewLoc::Virtual(p, _)` = `virt = some p`; the real node is addressed by a path.
`View.ents` = the entries the view's iterators yield (`View.iter_eq_ents`).
`View.Good` = the subtree at the view's path is a node and is well-formed at some key (nothing is asked
of the rest of the tree), a virtual prefix lying strictly above that node (`View.Good.cases` is how it is
used); the whole-map view of a well-formed map is good and every navigation step preserves it.

The last clause of the property (for tries modified only by insert / remove / retain / clear a
sub-view or side exists exactly when it contains an entry) rests on the canonical-shape invariant
`PMap.Canonical` (established for those histories by `PT.C15.canonical_after_history`).
-/
namespace PT.C11
open Tree Pfx View
variable {w : Nat} {V : Type}

/-- the whole-map view always exists and is good -/
theorem root_view_good {m : PMap w V} (h : m.TreeWF) : Good m.root (View.root : View w) := h.root_good

theorem root_view_ents (m : PMap w V) : (View.root : View w).ents m.root = m.entries := by
  simp [View.ents, View.node, View.root, Tree.sub_nil, PMap.entries]

/-- the iterators of a view yield exactly its entries, in lexicographic order -/
theorem view_iter (t : Tree w V) (v : View w) : v.iter t = v.ents t := View.iter_eq_ents t v

theorem view_iter_sorted {t : Tree w V} {v : View w} (hg : Good t v) :
    (v.iter t).Pairwise (fun a b => Spec.keyLt a.1.net b.1.net = true) := by
  obtain ⟨s, np, nv, nl, nr, hs, hwf, -⟩ := hg.cases
  rw [view_iter, View.ents, hs]; exact entries_sorted hwf

/-- `view_at(q)` / `view_mut_at(q)` return `None` only if no stored prefix is covered by `q` -/
theorem view_at_none {m : PMap w V} (h : m.TreeWF) (q : Pfx w)
    (hn : (View.root : View w).find m.root q = none) : ∀ e ∈ m.entries, ¬ q.net <+: e.1.net := by
  have := (View.find_spec (root_view_good h) q).1 hn
  rwa [root_view_ents] at this

/-- when they return a view, its `prefix()` is `q` in network form and its iterators yield exactly
the stored entries covered by `q` -/
theorem view_at_some {m : PMap w V} (h : m.TreeWF) (q : Pfx w) (v : View w)
    (hs : (View.root : View w).find m.root q = some v) :
    Good m.root v ∧ (∃ P, v.pfx m.root = some P ∧ P.net = q.net) ∧
    ∀ e, e ∈ v.iter m.root ↔ e ∈ m.entries ∧ q.net <+: e.1.net := by
  obtain ⟨h1, h2, h3⟩ := (View.find_spec (root_view_good h) q).2 v hs
  refine ⟨h1, h2, fun e => ?_⟩
  rw [view_iter, h3 e, root_view_ents]

/-- `value()` is the value stored exactly at the view's prefix (`None` otherwise) -/
theorem view_value {t : Tree w V} {v : View w} (hg : Good t v) {P : Pfx w} (hP : v.pfx t = some P) (x : V) :
    v.value t = some x ↔ ∃ p, (p, x) ∈ v.ents t ∧ p.net = P.net := View.value_spec hg hP x

/-- for every view, `left()` (`right()`) addresses exactly the entries under the view's prefix whose
next bit is 0 (1); `None` only if there are none; the side views are again good views -/
theorem left_spec {t : Tree w V} {v : View w} (hg : Good t v) {P : Pfx w} (hP : v.pfx t = some P) :
    (v.left t = none → ∀ e ∈ v.ents t, ¬ P.net ++ [false] <+: e.1.net) ∧
    (∀ v', v.left t = some v' → Good t v' ∧ ∀ e, e ∈ v'.ents t ↔ e ∈ v.ents t ∧ P.net ++ [false] <+: e.1.net) :=
  View.side_spec hg hP false

theorem right_spec {t : Tree w V} {v : View w} (hg : Good t v) {P : Pfx w} (hP : v.pfx t = some P) :
    (v.right t = none → ∀ e ∈ v.ents t, ¬ P.net ++ [true] <+: e.1.net) ∧
    (∀ v', v.right t = some v' → Good t v' ∧ ∀ e, e ∈ v'.ents t ↔ e ∈ v.ents t ∧ P.net ++ [true] <+: e.1.net) :=
  View.side_spec hg hP true

/-- `split()` returns both sides (`split = (left, right)` in the model; `has_left` / `has_right` are
`left().is_some()` / `right().is_some()`), and the view's entries are its own entry plus the two
sides' entries -/
theorem view_decompose {t : Tree w V} {v : View w} (hg : Good t v) :
    v.ents t = (v.prefixValue t).toList ++
      (match v.left t with | some l => l.ents t | none => []) ++
      (match v.right t with | some r => r.ents t | none => []) :=
  View.ents_decompose hg

/-- the two sides are disjoint: no entry is under both -/
theorem sides_disjoint (P : Pfx w) (e : Pfx w × V) :
    ¬ (P.net ++ [false] <+: e.1.net ∧ P.net ++ [true] <+: e.1.net) := by
  rintro ⟨h1, h2⟩
  exact List.not_prefix_of_sides (x := false) (y := true) (by simp) h1 h2 (List.prefix_refl _)

/-- in a canonical trie every view other than the whole-map view holds at least one entry -/
theorem canonical_view_nonempty {m : PMap w V} (h : m.TreeWF) (c : m.Canonical) {v : View w}
    (hg : Good m.root v) (hne : v ≠ View.root) : v.ents m.root ≠ [] := View.ents_ne_nil h c hg hne

/-- `view_at(q)` exists exactly when `q` is the zero-length prefix (the whole-map view always
exists) or some stored prefix is covered by `q` -/
theorem view_at_exists_iff {m : PMap w V} (h : m.TreeWF) (c : m.Canonical) (q : Pfx w) :
    ((View.root : View w).find m.root q).isSome = true ↔ q.net = [] ∨ ∃ e ∈ m.entries, q.net <+: e.1.net := by
  obtain ⟨p, x, l, r, hroot, hpn⟩ := h.root
  by_cases hq : q.net = []
  · -- the query has the root's key: `find` returns the whole-map view
    have hrq : p.net = q.net := by rw [hpn, hq]
    simp only [hq, true_or, iff_true, View.find, View.root, View.node, Tree.sub_nil, hroot, Tree.pfx?, len_lt_and_contains_iff]
    rw [if_neg fun h => h.2 (hq ▸ hrq.symm), findGo_node, dirIns_of_net_eq hrq]
    rfl
  · rw [or_iff_right hq]
    refine View.step_isSome_iff h c (view_at_none h q) fun v hv => ?_
    obtain ⟨hg, ⟨P, hP, hPq⟩, hm⟩ := view_at_some h q v hv
    refine ⟨hg, fun hr => hq ?_, fun e => by rw [← view_iter]; exact hm e⟩
    rw [hr] at hP
    simp only [View.pfx, View.root, View.node, Tree.sub_nil, hroot, Tree.pfx?, Option.some.injEq] at hP
    rw [← hPq, ← hP, hpn]

/-- `left()` / `right()` (`has_left` / `has_right`, the components of `split()`) exist exactly when
the view holds an entry on that side -/
theorem side_exists_iff {m : PMap w V} (h : m.TreeWF) (c : m.Canonical) {v : View w} (hg : Good m.root v)
    {P : Pfx w} (hP : v.pfx m.root = some P) (b : Bool) :
    (View.side m.root v b).isSome = true ↔ ∃ e ∈ v.ents m.root, P.net ++ [b] <+: e.1.net := by
  have hspec := View.side_spec hg hP b
  exact View.step_isSome_iff h c hspec.1 fun v' hv' =>
    ⟨(hspec.2 v' hv').1, View.side_ne_root h hg hv', (hspec.2 v' hv').2⟩

end PT.C11
