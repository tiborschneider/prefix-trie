import PT.Lemmas.Diff
import PT.Lemmas.Inter
/-!
# C07 — Difference and covering difference select exactly the specified left entries

One model for `Difference` / `DifferenceMut` and one for `CoveringDifference` /
`CoveringDifferenceMut` (the Rust `_mut` twins run the same index machine).
-/
namespace PT.C07
open SetOps
variable {w : Nat} {L R : Type}

/-- `difference(a, b)`: `a`'s entries filtered by "key not stored in `b`", in `a`'s order, with `a`'s
stored prefix and value (and the annotation of C08) -/
theorem difference_spec (a : Tree w L) (b : Tree w R) (hwa : HasWF a) (hwb : HasWF b) :
    difference a b = diffS a.slotEntries b.slotEntries none := difference_eq a b hwa hwb

/-- `covering_difference(a, b)`: `a`'s entries filtered by "not covered by any prefix stored in `b`"
(an equal prefix covers), in `a`'s order -/
theorem coveringDifference_spec (a : Tree w L) (b : Tree w R) (hwa : HasWF a) (hwb : HasWF b) :
    coveringDifference a b = covDiffS a.slotEntries b.slotEntries := coveringDifference_eq a b hwa hwb

/-- an entry of `a` is yielded by `difference` exactly when no entry of `b` has its key -/
theorem difference_mem (a : Tree w L) (b : Tree w R) (hwa : HasWF a) (hwb : HasWF b) (x : Nat × Pfx w × L) :
    (∃ it ∈ difference a b, it.p = x.2.1 ∧ it.v = (x.1, x.2.2)) ↔
      x ∈ a.slotEntries ∧ ∀ y ∈ b.slotEntries, y.2.1.net ≠ x.2.1.net := by
  simp only [difference_spec a b hwa hwb, src_eq_iff]
  rw [← List.mem_map, diffS_src, List.mem_filter, Option.isNone_iff_eq_none, lookupK_eq_none_iff]; rfl

/-- an entry of `a` is yielded by `covering_difference` exactly when no entry of `b` covers it -/
theorem coveringDifference_mem (a : Tree w L) (b : Tree w R) (hwa : HasWF a) (hwb : HasWF b) (x : Nat × Pfx w × L) :
    (∃ it ∈ coveringDifference a b, it.p = x.2.1 ∧ it.v = (x.1, x.2.2)) ↔
      x ∈ a.slotEntries ∧ ∀ y ∈ b.slotEntries, ¬ y.2.1.net <+: x.2.1.net := by
  simp only [coveringDifference_spec a b hwa hwb, src_eq_iff]
  rw [← List.mem_map, covDiffS_src, List.mem_filter, List.isEmpty_iff, coverK, List.filter_eq_nil_iff]
  exact and_congr_right fun _ => forall₂_congr fun y _ => not_congr (Pfx.contains_iff _ _)

/-- both yield a sub-list of `a`'s sorted entry list: each selected entry once, ascending, with
`a`'s value -/
theorem difference_order (a : Tree w L) (b : Tree w R) (hwa : HasWF a) (hwb : HasWF b) :
    ((difference a b).map (fun it => (it.v.1, it.p, it.v.2))).Sublist a.slotEntries := by
  rw [difference_spec a b hwa hwb, diffS_src]; exact List.filter_sublist

theorem coveringDifference_order (a : Tree w L) (b : Tree w R) (hwa : HasWF a) (hwb : HasWF b) :
    ((coveringDifference a b).map (fun it => (it.v.1, it.p, it.v.2))).Sublist a.slotEntries := by
  rw [coveringDifference_spec a b hwa hwb, covDiffS_src]; exact List.filter_sublist

/-- special cases named by the property: an empty `b` removes nothing -/
theorem difference_empty_right (a : Tree w L) (hwa : HasWF a) :
    (difference a (Tree.nil : Tree w R)).map (fun it => (it.v.1, it.p, it.v.2)) = a.slotEntries := by
  rw [difference_spec a _ hwa hasWF_nil, diffS_src]; exact List.filter_eq_self.2 fun _ _ => rfl

theorem interS_diffS_length (A : KL w L) (B : KL w R) (base : Lpm w R) :
    (interS A B).length + (diffS A B base).length = A.length := by
  unfold interS diffS
  induction A with
  | nil => rfl
  | cons x xs ih =>
    simp only [List.filterMap_cons, List.length_cons]
    cases lookupK B (keyOf x) with
    | some y => simp only [Option.map_some, List.length_cons]; omega
    | none => simp only [Option.map_none, List.length_cons]; omega

/-- `intersection(a, b)` and `difference(a, b)` together yield as many items as `a` has entries (that no
entry is yielded by both is `difference_intersection_disjoint`) -/
theorem difference_intersection_partition (a : Tree w L) (b : Tree w R) (hwa : HasWF a) (hwb : HasWF b) :
    (intersection a b).length + (difference a b).length = a.slotEntries.length := by
  rw [intersection_eq a b hwa hwb, difference_spec a b hwa hwb]
  exact interS_diffS_length _ _ _

/-- `intersection` and `difference` never yield an item under the same key -/
theorem difference_intersection_disjoint (a : Tree w L) (b : Tree w R) (hwa : HasWF a) (hwb : HasWF b)
    (i : IItem w L R) (hi : i ∈ intersection a b) (d : DItem w L R) (hd : d ∈ difference a b) :
    i.p.net ≠ d.p.net := by
  rw [intersection_eq a b hwa hwb] at hi
  rw [difference_spec a b hwa hwb] at hd
  obtain ⟨x, _, bx, hlx, rfl⟩ := mem_interS.1 hi
  obtain ⟨y, _, hly, rfl⟩ := mem_diffS.1 hd
  intro hnet
  rw [show keyOf x = keyOf y from hnet, hly] at hlx
  cases hlx

/-- `covering_difference(a, b)` yields exactly the items of `difference(a, b)` that no prefix stored in
`b` covers, i.e. those without an annotation -/
theorem coveringDifference_eq_filter (a : Tree w L) (b : Tree w R) (hwa : HasWF a) (hwb : HasWF b) :
    coveringDifference a b = (difference a b).filter (fun d => d.right.isNone) := by
  rw [coveringDifference_spec a b hwa hwb, difference_spec a b hwa hwb, covDiffS_eq_filter]

/-- whatever `covering_difference(a, b)` yields, `difference(a, b)` yields too (an equal prefix
covers): same left node, same stored prefix, same value -/
theorem coveringDifference_subset_difference (a : Tree w L) (b : Tree w R) (hwa : HasWF a) (hwb : HasWF b)
    (c : DItem w L R) (hc : c ∈ coveringDifference a b) :
    ∃ d ∈ difference a b, d.p = c.p ∧ d.v = c.v := by
  rw [coveringDifference_eq_filter a b hwa hwb] at hc
  exact ⟨c, (List.mem_filter.1 hc).1, rfl, rfl⟩

/-- special case: nothing is left of a view after removing the view itself — more generally after
removing any view that stores all of its keys -/
theorem difference_eq_nil_of_subset (a : Tree w L) (b : Tree w R) (hwa : HasWF a) (hwb : HasWF b)
    (hsub : ∀ x ∈ a.slotEntries, ∃ y ∈ b.slotEntries, y.2.1.net = x.2.1.net) : difference a b = [] := by
  rw [difference_spec a b hwa hwb, List.eq_nil_iff_forall_not_mem]
  intro it hit
  obtain ⟨x, hx, hl, _⟩ := mem_diffS.1 hit
  obtain ⟨y, hy, hk⟩ := hsub x hx
  exact lookupK_eq_none_iff.1 hl y hy hk

theorem difference_self (a : Tree w L) (hwa : HasWF a) : difference a a = [] :=
  difference_eq_nil_of_subset a a hwa hwa (fun x hx => ⟨x, hx, rfl⟩)

end PT.C07
