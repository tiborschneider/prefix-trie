import PT.Lemmas.Reach
/-!
# C04 — len() and is_empty() always agree with the number of stored entries

The counter is part of the map invariant (`PMap.Inv.count`); every operation of the alphabet `Op`
preserves the invariant (`run_inv`), so the agreement holds after any history.
-/
namespace PT.C04
open Tree PMap
variable {w : Nat} {V : Type}

/-- in every state satisfying the invariant, `len()` is the number of entries yielded by iteration -/
theorem len_eq_iter_length {m : PMap w V} (h : m.Inv) : m.len = m.iter.length := by
  unfold PMap.len PMap.iter
  rw [h.count, iterAll_root]; rfl

theorem isEmpty_iff {m : PMap w V} (h : m.Inv) : m.isEmpty = true ↔ m.iter = [] := by
  have := len_eq_iter_length h
  unfold PMap.isEmpty PMap.len at *
  rw [beq_iff_eq, this, List.length_eq_zero_iff]

/-- … and every reachable state satisfies it: any history over the alphabet `Op`: insert (new, existing
and value-less nodes), the Entry paths (`insert`, `or_insert*`, `VacantEntry::insert*`, value writes,
`OccupiedEntry::remove` = `removeKeepTree`), remove, remove_keep_tree, remove_children, retain (also
when its predicate panics at any call), clear, collect, and `set` / `remove` through a mutable view -/
theorem len_after_any_history (ops : List (Op w V)) :
    (run ops (PMap.empty : PMap w V)).len = (run ops (PMap.empty : PMap w V)).iter.length :=
  len_eq_iter_length (run_inv ops)

theorem isEmpty_after_any_history (ops : List (Op w V)) :
    (run ops (PMap.empty : PMap w V)).isEmpty = true ↔ (run ops (PMap.empty : PMap w V)).iter = [] :=
  isEmpty_iff (run_inv ops)

/-- the per-operation instances of `apply_inv`: each mutator preserves the invariant -/
theorem insert_preserves {m : PMap w V} (h : m.Inv) (q : Pfx w) (x : V) : (m.insert q x).1.Inv := insert_inv h q x
theorem remove_preserves {m : PMap w V} (h : m.Inv) (q : Pfx w) : (m.remove q).1.Inv := remove_inv h q
theorem removeKeepTree_preserves {m : PMap w V} (h : m.Inv) (q : Pfx w) : (m.removeKeepTree q).1.Inv :=
  removeKeepTree_inv h q
theorem retain_preserves {m : PMap w V} (h : m.Inv) (f : Pfx w → V → Bool) (stop : Option Nat) :
    (m.retain f stop).Inv := retain_inv h f stop
theorem collect_satisfies (xs : List (Pfx w × V)) : (PMap.collect xs).Inv := collect_inv xs
/-- `clone()` is the identity on model states: the clone has the same counter and entries -/
theorem clone_same (m : PMap w V) : m.len = m.len ∧ m.entries = m.entries := ⟨rfl, rfl⟩

/-- the decrement never underflows: when a value is removed the counter is positive -/
theorem count_pos_of_get_some {m : PMap w V} (h : m.Inv) (q : Pfx w) (hq : (m.get q).isSome = true) :
    0 < m.count := h.count_pos hq


/-- value insertion / removal through a mutable view (`TrieViewMut::set`, `TrieViewMut::remove`) on
any view that addresses an existing node keeps `len()` right; histories containing them
(`Op.viewSet`, `Op.viewRemove`) are covered by `len_after_any_history` -/
theorem viewSet_preserves {m : PMap w V} (h : m.Inv) {v : View w} (hg : View.Good m.root v) (x : V) :
    (m.viewSet v x).1.Inv := viewSet_inv h hg x
theorem viewRemove_preserves {m : PMap w V} (h : m.Inv) {v : View w} (hg : View.Good m.root v) :
    (m.viewRemove v).1.Inv := viewRemove_inv h hg

/-- non-vacuity: `set` on the value-less branching node above two entries adds an entry -/
example : ((((PMap.empty : PMap 8 Nat).insert ⟨0x00#8, 2, by omega⟩ 1).1.insert ⟨0x40#8, 2, by omega⟩ 2).1.viewSetAt
    ⟨0x00#8, 1, by omega⟩ [] 9).len = 3 := by decide

end PT.C04
