import PT.Props.C05
import PT.Props.C06
import PT.Props.C07
import PT.Lemmas.Reach
import PT.Props.C02
/-!
# C18 — Keys are identified by network part; stored representation is last inserted

The abstract map of C01 stores, under each key `net p`, the pair (stored representation, value), so
"which representation is stored" is part of the C01 refinement.  Collected here: what follows for
representations, including which stored representation the items of the set operations report.
-/
namespace PT.C18
open Tree Pfx
variable {w : Nat} {V : Type}

/-- two representations of one key are never both stored -/
theorem one_repr_per_key {m : PMap w V} (h : m.TreeWF) {p1 p2 : Pfx w} {x1 x2 : V}
    (h1 : (p1, x1) ∈ m.entries) (h2 : (p2, x2) ∈ m.entries) (hk : p1.net = p2.net) : p1 = p2 ∧ x1 = x2 := by
  exact Prod.mk.inj (WF.key_inj h.wf h1 h2 hk)

/-- representations that differ only in host bits are interchangeable as lookup keys … -/
theorem get_host_bits_irrelevant (m : PMap w V) {q q' : Pfx w} (hq : q.net = q'.net) :
    m.get q = m.get q' ∧ m.getKeyValue q = m.getKeyValue q' ∧ m.containsKey q = m.containsKey q' := by
  unfold PMap.get PMap.getKeyValue PMap.containsKey Tree.get Tree.getKeyValue Tree.containsKey Tree.get
  rw [findNode_congr hq]; exact ⟨rfl, rfl, rfl⟩

/-- … for `cover` and shortest-prefix match … -/
theorem cover_host_bits_irrelevant {m : PMap w V} (h : m.TreeWF) {q q' : Pfx w} (hq : q.net = q'.net) :
    m.cover q = m.cover q' ∧ m.getSpm q = m.getSpm q' := by
  rw [PMap.getSpm, PMap.getSpm, getSpm_eq, getSpm_eq, PMap.cover, PMap.cover, cover_congr hq]
  exact ⟨rfl, rfl⟩

/-- … and as selector of `children` -/
theorem children_host_bits_irrelevant {m : PMap w V} (h : m.TreeWF) {q q' : Pfx w} (hq : q.net = q'.net) :
    m.childrenIter q = m.childrenIter q' := by
  unfold PMap.childrenIter; rw [childrenStart_congr hq]

/-- … and as selector of `remove_children` -/
theorem removeChildren_host_bits_irrelevant {m : PMap w V} (h : m.Inv) {q q' : Pfx w} (hq : q.net = q'.net) :
    (m.removeChildren q).entries = (m.removeChildren q').entries := by
  unfold PMap.removeChildren
  rw [rmChildren_congr hq, ← net_length q, hq, net_length]

/-- … for longest-prefix match … -/
theorem lpm_host_bits_irrelevant {m : PMap w V} (h : m.TreeWF) {q q' : Pfx w} (hq : q.net = q'.net) :
    m.getLpm q = m.getLpm q' := by
  rw [PMap.getLpm, PMap.getLpm, getLpm_eq_cover, getLpm_eq_cover, cover_congr hq]

/-- … and as removal keys: the entries after `remove q` depend on `net q` only -/
theorem remove_host_bits_irrelevant {m : PMap w V} (h : m.TreeWF) {q q' : Pfx w} (hq : q.net = q'.net) (e : Pfx w × V) :
    e ∈ (m.remove q).1.entries ↔ e ∈ (m.remove q').1.entries := by
  unfold PMap.remove; rw [remove_congr hq]

/-- the representation returned by a lookup is the stored one, never the query's -/
theorem lookup_returns_stored {m : PMap w V} (h : m.TreeWF) (q p : Pfx w) (x : V)
    (hg : m.getKeyValue q = some (p, x)) : (p, x) ∈ m.entries ∧ p.net = q.net :=
  (getKeyValue_iff h.wf q p x).1 hg

theorem lpm_returns_stored {m : PMap w V} (h : m.TreeWF) (q : Pfx w) (e : Pfx w × V) (hg : m.getLpm q = some e) :
    e ∈ m.entries := (PT.C02.getLpm_mem h q e hg).1

/-- `insert` (= `Entry::insert`, `OccupiedEntry::insert`, vacant insertions) stores the
representation passed to it, replacing whichever was stored under that key … -/
theorem insert_stores_passed_repr {m : PMap w V} (h : m.TreeWF) (q : Pfx w) (x : V) :
    (q, x) ∈ (m.insert q x).1.entries ∧
    ∀ p y, (p, y) ∈ (m.insert q x).1.entries → p.net = q.net → p = q ∧ y = x := by
  refine ⟨(PMap.insert_mem h q x _).2 (.inl rfl), fun p y hp hk => ?_⟩
  rcases (PMap.insert_mem h q x _).1 hp with h1 | h1
  · exact Prod.mk.inj h1
  · exact absurd hk h1.2

/-- … and leaves the representation of every other entry alone -/
theorem insert_keeps_other_reprs {m : PMap w V} (h : m.TreeWF) (q : Pfx w) (x : V) (e : Pfx w × V)
    (hne : e.1.net ≠ q.net) : e ∈ (m.insert q x).1.entries ↔ e ∈ m.entries := by
  rw [PMap.insert_mem h q x e]
  exact ⟨fun h1 => h1.elim (fun h1 => absurd (by rw [h1]) hne) (·.1), fun h1 => .inr ⟨h1, hne⟩⟩

/-- `or_insert*` on an occupied entry changes nothing (the stored representation stays) -/
theorem orInsert_occupied_keeps (m : PMap w V) (q : Pfx w) (x v : V) (hv : m.get q = some v) :
    (m.orInsert q x).1 = m := by
  rw [PMap.orInsert_fst, show m.root.get q = some v from hv]; rfl

/-- value-only accesses (`get_mut`, `and_modify`, `OccupiedEntry::get_mut`) never change a
representation: the list of stored prefixes is the same -/
theorem modify_keeps_reprs {m : PMap w V} (h : m.TreeWF) (q : Pfx w) (f : V → V) (p : Pfx w) :
    (∃ y, (p, y) ∈ (m.modify q f).entries) ↔ (∃ y, (p, y) ∈ m.entries) := by
  have hk : (m.modify q f).entries.map (·.1) = m.entries.map (·.1) := modifyValue_keys h.wf q f
  have key : ∀ es : List (Pfx w × V), (∃ y, (p, y) ∈ es) ↔ p ∈ es.map (·.1) := fun es => by simp
  rw [key, key, hk]

/-- `TrieViewMut::set` on a node keeps that node's existing prefix (the documented exception) -/
theorem view_set_keeps_node_prefix (t : Tree w V) (x : V) : (t.withValue (some x)).pfx? = t.pfx? := by
  cases t <;> rfl


/-- the only entries carrying a prefix the user did not pass: `set(x)` through a mutable view on a
node stores `(that node's existing prefix, x)` — for a value-less branching node the masked longest
common prefix computed at its creation — and leaves every other entry's representation alone -/
theorem view_set_repr {m : PMap w V} (h : m.TreeWF) {v : View w} (hg : View.Good m.root v) (x : V)
    {np : Pfx w} (hv : v.virt = none) (hp : (v.node m.root).pfx? = some np) (e : Pfx w × V) :
    e ∈ (m.viewSet v x).1.entries ↔ (e ∈ m.entries ∧ e.1.net ≠ np.net) ∨ e = (np, x) :=
  PMap.viewSet_mem h hv hp x e

open SetOps in
/-- union: a one-sided item reports the representation stored on its side, a `Both` item the one stored
in the left operand -/
theorem union_reports_stored {L R : Type} (a : Tree w L) (b : Tree w R) (hwa : HasWF a) (hwb : HasWF b) :
    ∀ u ∈ (union a b).filterMap UItem.view,
      (match u with
       | .left p l _ => (l.1, p, l.2) ∈ a.slotEntries
       | .right p _ r => (r.1, p, r.2) ∈ b.slotEntries
       | .both p l r => (l.1, p, l.2) ∈ a.slotEntries ∧ ∃ pr, (r.1, pr, r.2) ∈ b.slotEntries ∧ pr.net = p.net) :=
  PT.C05.union_item_repr a b hwa hwb

open SetOps in
/-- intersection: the representation stored in the left operand -/
theorem intersection_reports_stored {L R : Type} (a : Tree w L) (b : Tree w R) (hwa : HasWF a) (hwb : HasWF b)
    (it : IItem w L R) (h : it ∈ intersection a b) : (it.l.1, it.p, it.l.2) ∈ a.slotEntries :=
  (PT.C06.intersection_sound a b hwa hwb it h).1

open SetOps in
/-- difference and covering difference: the representation stored in the left operand -/
theorem difference_reports_stored {L R : Type} (a : Tree w L) (b : Tree w R) (hwa : HasWF a) (hwb : HasWF b) :
    ((difference a b).map (fun it => (it.v.1, it.p, it.v.2))).Sublist a.slotEntries ∧
    ((coveringDifference a b).map (fun it => (it.v.1, it.p, it.v.2))).Sublist a.slotEntries :=
  ⟨PT.C07.difference_order a b hwa hwb, PT.C07.coveringDifference_order a b hwa hwb⟩

end PT.C18
