import PT.Lemmas.Reach
/-!
# C16 — Removed nodes are reclaimed: storage stays bounded under insert/remove churn

Every allocated slot is at all times exactly once in the tree or in the free list (`slot_partition`; it is
part of `PMap.Inv`), so released slots are what the next insertions take.  On this rest two bounds.  The
arena (`alloc`) grows only when the free list is empty (`apply_alloc`), so it never exceeds the largest tree
of the history (`storage_bounded`).  Under the mutators that collapse value-less nodes (`Op.Canonical`) the
tree itself holds at most `2·len() + 1` nodes (`canonical_nodes_le`).
-/
namespace PT.C16
open Tree PMap
variable {w : Nat} {V : Type}

/-- every slot the map has ever allocated is at all times either part of the tree or available for
reuse — exactly once, never both, never neither; nothing beyond the arena is referenced -/
theorem slot_partition (ops : List (Op w V)) (a : Nat) :
    let m := run ops (PMap.empty : PMap w V)
    (a < m.alloc → (m.root.slots ++ m.free).count a = 1) ∧
    (m.alloc ≤ a → (m.root.slots ++ m.free).count a = 0) :=
  ⟨(run_inv ops).slots_lt a, (run_inv ops).slots_ge a⟩

theorem slots_perm_range {m : PMap w V} (h : m.Inv) : (m.root.slots ++ m.free).Perm (List.range m.alloc) := h.perm

theorem slots_nodup {m : PMap w V} (h : m.Inv) : (m.root.slots ++ m.free).Nodup :=
  h.slots_nodup

theorem slots_length (t : Tree w V) : t.slots.length = t.size := by
  induction t with
  | nil => rfl
  | node s p v l r ihl ihr => simp [Tree.slots, Tree.size, ihl, ihr]; omega

theorem alloc_eq {m : PMap w V} (h : m.Inv) : m.alloc = m.root.size + m.free.length := by
  have := (slots_perm_range h).length_eq
  simp [slots_length] at this; omega

theorem takeSlots_nil (k alloc : Nat) : (takeSlots k [] alloc).1 = [] := by
  induction k generalizing alloc with
  | zero => rfl
  | succ k ih => simp only [takeSlots, List.getLast?_nil]; exact ih _

theorem insert_free_nil {m : PMap w V} (hm : m.free = []) (q : Pfx w) (x : V) : (m.insert q x).1.free = [] := by
  show (takeSlots _ m.free m.alloc).1 = []
  rw [hm]; exact takeSlots_nil _ _

/-- the next insertions reuse released slots: the arena grows only when the free list is empty -/
theorem takeSlots_grows_only_if_empty (k : Nat) (free : List Nat) (alloc : Nat)
    (h : (takeSlots k free alloc).2 ≠ alloc) : (takeSlots k free alloc).1 = [] := by
  induction k generalizing free alloc with
  | zero => simp [takeSlots] at h
  | succ k ih =>
    unfold takeSlots at h ⊢
    cases hg : free.getLast? with
    | none =>
      have hf : free = [] := List.getLast?_eq_none_iff.1 hg
      subst hf
      simp only [hg] at h ⊢
      exact takeSlots_nil _ _
    | some x => simp only [hg] at h ⊢; exact ih _ _ h

theorem insert_alloc {m : PMap w V} (h : m.Inv) (q : Pfx w) (x : V) :
    (m.insert q x).1.alloc = m.alloc ∨ (m.insert q x).1.alloc = (m.insert q x).1.root.size :=
  (Decidable.em _).imp_right fun hc => by
    have := alloc_eq (insert_inv h q x)
    rwa [show (m.insert q x).1.free = [] from takeSlots_grows_only_if_empty _ _ _ hc] at this

/-- the largest number of nodes the tree holds at any point of the history `ops` run from `m0` -/
def peak (m0 : PMap w V) : List (Op w V) → Nat
  | [] => m0.root.size
  | op :: ops => max m0.root.size (peak (op.apply m0) ops)

theorem retain_alloc (m : PMap w V) (f : Pfx w → V → Bool) (stop : Option Nat) :
    (m.retain f stop).alloc = m.alloc :=
  retain_induction (P := fun m' : PMap w V => m'.alloc = m.alloc) (fun _ _ h => h) rfl f stop

theorem collect_free_nil (xs : List (Pfx w × V)) : (PMap.collect xs).free = [] :=
  List.foldlRecOn (motive := fun m : PMap w V => m.free = []) xs _ rfl fun _ h e _ => insert_free_nil h e.1 e.2

theorem apply_alloc (m : PMap w V) (op : Op w V) : (op.apply m).alloc = m.alloc ∨ (op.apply m).free = [] := by
  have ins : ∀ q x, (m.insert q x).1.alloc = m.alloc ∨ (m.insert q x).1.free = [] := fun q x =>
    (Decidable.em _).imp_right (takeSlots_grows_only_if_empty _ _ _)
  cases op with
  | insert q x => exact ins q x
  | orInsert q x =>
    show (m.orInsert q x).1.alloc = _ ∨ (m.orInsert q x).1.free = _
    rw [orInsert_fst]; split
    · exact .inl rfl
    · exact ins q x
  | removeChildren q =>
    show (m.removeChildren q).alloc = _ ∨ (m.removeChildren q).free = _
    unfold PMap.removeChildren
    split
    · exact .inr rfl
    · split <;> exact .inl rfl
  | retain f stop => exact .inl (retain_alloc m f stop)
  | clear => exact .inr rfl
  | collect xs => exact .inr (collect_free_nil xs)
  | viewSet q cs x =>
    show (m.viewSetAt q cs x).alloc = _ ∨ _
    unfold PMap.viewSetAt PMap.viewSet
    split
    · next v _ => cases v.virt <;> exact .inl rfl
    · exact .inl rfl
  | viewRemove q cs =>
    show (m.viewRemoveAt q cs).alloc = _ ∨ _
    unfold PMap.viewRemoveAt PMap.viewRemove
    split
    · next v _ => cases v.virt <;> exact .inl rfl
    · exact .inl rfl
  | _ => exact .inl rfl

theorem alloc_le_size_or_same {m : PMap w V} (h : m.Inv) (op : Op w V) :
    (op.apply m).alloc ≤ max m.alloc (op.apply m).root.size := by
  rcases apply_alloc m op with e | e
  · rw [e]; exact Nat.le_max_left ..
  · rw [alloc_eq (apply_inv h op), e]; exact Nat.le_max_right ..

theorem alloc_le_peak {m : PMap w V} (h : m.Inv) (ops : List (Op w V)) :
    (run ops m).alloc ≤ max m.alloc (peak m ops) := by
  induction ops generalizing m with
  | nil => exact Nat.le_max_left _ _
  | cons op ops ih =>
    have h3 : (op.apply m).root.size ≤ peak (op.apply m) ops := by
      cases ops
      · exact Nat.le_refl _
      · exact Nat.le_max_left _ _
    have hp : peak (op.apply m) ops ≤ max m.alloc (peak m (op :: ops)) :=
      Nat.le_trans (Nat.le_max_right ..) (Nat.le_max_right ..)
    exact Nat.le_trans (ih (apply_inv h op)) (Nat.max_le.2
      ⟨Nat.le_trans (alloc_le_size_or_same h op) (Nat.max_le.2 ⟨Nat.le_max_left .., Nat.le_trans h3 hp⟩), hp⟩)

/-- storage is bounded by the largest number of nodes ever needed at one time: from the empty map, along
any history, the arena length never exceeds the running maximum of the tree size (`peak`), no matter how
many insert / remove / retain cycles are executed -/
theorem storage_bounded (ops : List (Op w V)) :
    (run ops (PMap.empty : PMap w V)).alloc ≤ peak (PMap.empty : PMap w V) ops := by
  have := alloc_le_peak (empty_inv : (PMap.empty : PMap w V).Inv) ops
  have h0 : (PMap.empty : PMap w V).alloc ≤ peak (PMap.empty : PMap w V) ops := by
    cases ops <;> simp [peak, PMap.empty, Tree.size] <;> omega
  omega


/-- a canonical non-root subtree holds at most `2·entries − 1` nodes … -/
theorem canon_size_le {t : Tree w V} (h : Tree.Canon false t) (hn : t.isNil = false) :
    t.size + 1 ≤ 2 * t.card := by
  have := h.size_le
  have := size_pos hn
  omega

/-- … so a map modified only by insertion, `remove`, `retain` and `clear` never holds more than
`2·len() + 1` nodes: removals give back every node they make superfluous -/
theorem canonical_nodes_le (ops : List (Op w V)) (hops : ∀ op ∈ ops, op.Canonical) :
    (run ops (PMap.empty : PMap w V)).root.size ≤ 2 * (run ops (PMap.empty : PMap w V)).len + 1 := by
  rw [PMap.len, (run_inv ops).count]; exact Tree.Canon.size_le_root (run_canonical ops hops)

/-- a map emptied by `remove` / `retain` (any history over the canonical sub-alphabet that ends with no
entries) consists of the root node alone — it needs no more nodes than a new map … -/
theorem emptied_is_root_only (ops : List (Op w V)) (hops : ∀ op ∈ ops, op.Canonical)
    (he : (run ops (PMap.empty : PMap w V)).entries = []) :
    (run ops (PMap.empty : PMap w V)).root.size = 1 := by
  have hn := canonical_nodes_le ops hops
  obtain ⟨p, v, l, r, hr, _⟩ := (run_inv ops).tree.root
  rw [PMap.len, (run_inv ops).count, Tree.card, show (run ops PMap.empty).root.entries = [] from he] at hn
  rw [hr] at hn ⊢
  simp only [Tree.size, List.length_nil] at hn ⊢; omega

/-- … and its arena is no larger than the most nodes it ever needed at one time -/
theorem emptied_arena_bounded (ops : List (Op w V)) :
    (run ops (PMap.empty : PMap w V)).alloc ≤ peak (PMap.empty : PMap w V) ops := storage_bounded ops


end PT.C16
