import PT.Lemmas.RetainRec
import PT.Lemmas.Refine
/-!
# C10 — Sub-tree selection and bulk removal act on exactly the covered entries

`children`, `children_mut`, `into_children` and the set's `children` run one iterator from the
subtree selected by `lpm_children_iter_start`: they yield exactly the stored entries that `q` covers.
`remove_children(q)` removes exactly those, `retain f` exactly the entries `f` rejects; each leaves every
other entry as it was and keeps the map invariant.  The last section is about `_retain` as written: its
recursion with the removal flags does what a fold of `remove` over the post-order entries does, also
when the predicate panics part-way.
-/
namespace PT.C10
open Tree Pfx PMap
variable {w : Nat} {V : Type}

/-- `retain f` removes exactly the entries for which `f` returned false and keeps all others with
their stored representation and value -/
theorem retain_entries {m : PMap w V} (h : m.TreeWF) (f : Pfx w → V → Bool) (e : Pfx w × V) :
    e ∈ (m.retain f).entries ↔ e ∈ m.entries ∧ f e.1 e.2 = true := retain_mem h f e

/-- hence the listing afterwards is the filtered listing (iteration order is canonical) -/
theorem retain_iter {m : PMap w V} (h : m.Inv) (f : Pfx w → V → Bool) :
    (m.retain f).entries = m.entries.filter (fun e => f e.1 e.2) := PMap.retain_refines h.tree f

/-- the predicate is evaluated exactly once per stored entry -/
theorem retain_calls_once (m : PMap w V) : (m.retainCalls none).Perm m.entries := postorder_perm m.root

theorem retain_preserves_inv {m : PMap w V} (h : m.Inv) (f : Pfx w → V → Bool) : (m.retain f).Inv :=
  retain_inv h f

/-- `children(q)` (and `children_mut`, `into_children`, the set's `children`) yields exactly the
stored entries covered by `q` (itself included), in lexicographic order -/
theorem children_eq {m : PMap w V} (h : m.TreeWF) (q : Pfx w) :
    m.childrenIter q = m.entries.filter (fun e => q.contains e.1) := by
  unfold PMap.childrenIter
  rw [iterAll_root]
  exact childrenStart_entries h.wf (h.rootCovers q)

theorem children_mem {m : PMap w V} (h : m.TreeWF) (q : Pfx w) (e : Pfx w × V) :
    e ∈ m.childrenIter q ↔ e ∈ m.entries ∧ q.net <+: e.1.net := by
  rw [children_eq h, List.mem_filter, contains_iff]

/-- `remove_children(q)` removes exactly those entries and leaves all others with their values and
representations (a zero-length prefix empties the map) -/
theorem removeChildren_entries {m : PMap w V} (h : m.TreeWF) (q : Pfx w) (e : Pfx w × V) :
    e ∈ (m.removeChildren q).entries ↔ e ∈ m.entries ∧ ¬ q.net <+: e.1.net := removeChildren_mem h q e

theorem removeChildren_zero {m : PMap w V} (q : Pfx w) (hq : q.len = 0) : (m.removeChildren q).entries = [] := by
  unfold PMap.removeChildren; simp [hq, PMap.clear, PMap.empty_entries]

theorem removeChildren_preserves_inv {m : PMap w V} (h : m.Inv) (q : Pfx w) : (m.removeChildren q).Inv :=
  removeChildren_inv h q


/-- the three operations as functions of the abstract map (`Spec.retain`, `Spec.children`,
`Spec.removeChildren` are list filters) -/
theorem retain_eq_spec {m : PMap w V} (h : m.Inv) (f : Pfx w → V → Bool) :
    (m.retain f).entries = Spec.retain m.entries f := PMap.retain_refines h.tree f

theorem children_eq_spec {m : PMap w V} (h : m.TreeWF) (q : Pfx w) :
    m.childrenIter q = Spec.children m.entries q := PMap.children_refines h q

theorem removeChildren_eq_spec {m : PMap w V} (h : m.Inv) (q : Pfx w) :
    (m.removeChildren q).entries = Spec.removeChildren m.entries q := PMap.removeChildren_refines h.tree q


/-! ### `_retain` as written

`PMap.retainRec` / `Tree.retainF` (`PT/Retain.lean`) transcribe the recursion of `_retain` with its
`idx_removed` / `par_removed` flags; this is the function the correspondence driver executes.  The
theorems above are stated for `PMap.retain`, the post-order fold of `_remove_node`-by-key. -/

/-- the recursion **is** that fold, on every well-formed map, for complete runs and for runs cut short
by a predicate that panics at its `k`-th call: same tree, same free list, same counter -/
theorem retain_recursion_eq_fold {m : PMap w V} (h : m.TreeWF) (f : Pfx w → V → Bool) (stop : Option Nat) :
    m.retainRec f stop = m.retain f stop := retainRec_eq h f stop

/-- hence, for the recursion: exactly the entries satisfying the predicate survive, the invariant holds -/
theorem retainRec_entries {m : PMap w V} (h : m.Inv) (f : Pfx w → V → Bool) :
    (m.retainRec f).entries = m.entries.filter (fun e => f e.1 e.2) ∧ (m.retainRec f).Inv := by
  rw [retainRec_eq h.tree]
  exact ⟨retain_iter h f, retain_inv h f⟩

/-- the recursion on a subtree, allowed `n` calls, does what folding `_remove_node` over the first `n`
post-order entries does, and aborts iff `n` is smaller than the number of entries -/
theorem retainF_spec (f : Pfx w → V → Bool) {k : List Bool} {t : Tree w V} (hwf : Tree.WF k t) (hp : Bool) (n : Nat) :
    (Tree.retainF f t hp n).acc = Tree.foldF f hp (t.postorder.take n) t ∧
    (Tree.retainF f t hp n).budget = n - t.postorder.length ∧
    (Tree.retainF f t hp n).aborted = decide (n < t.postorder.length) := Tree.retainF_eq_fold f hwf hp n

end PT.C10
