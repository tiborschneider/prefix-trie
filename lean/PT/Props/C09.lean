import PT.Lemmas.Refine
import PT.Lemmas.Map
/-!
# C09 — Shortest-prefix match and cover list exactly the covering entries, in order

On a well-formed trie (every reachable state: C15) `cover(q)` is the entry list filtered by "covers `q`",
strictly increasing in length; `get_spm` is its head and `get_lpm` its last element.  That `get_spm` is the
head of `cover` and that `cover` is no longer than the node count hold for every tree.
-/
namespace PT.C09
open Tree Pfx
variable {w : Nat} {V : Type}

/-- `cover(q)` (and its `cover_keys` / `cover_values` projections, the set's `cover`) yields exactly
the stored entries whose prefix covers `q` (`q` itself and the zero-length prefix included) … -/
theorem cover_eq {m : PMap w V} (h : m.TreeWF) (q : Pfx w) :
    m.cover q = m.entries.filter (fun e => e.1.contains q) :=
  cover_eq_covering h.wf (h.rootCovers q)

theorem mem_cover_iff {m : PMap w V} (h : m.TreeWF) (q : Pfx w) (e : Pfx w × V) :
    e ∈ m.cover q ↔ e ∈ m.entries ∧ e.1.net <+: q.net := by
  rw [cover_eq h, List.mem_filter, contains_iff]

/-- … each once, in strictly increasing prefix length -/
theorem cover_sorted {m : PMap w V} (h : m.TreeWF) (q : Pfx w) :
    (m.cover q).Pairwise (fun a b => a.1.len < b.1.len) := PMap.cover_sorted h q

/-- longest-prefix match returns the last element of that sequence -/
theorem getLpm_eq_cover_last {m : PMap w V} (h : m.TreeWF) (q : Pfx w) :
    m.getLpm q = (m.cover q).getLast? := by
  rw [PMap.getLpm, PMap.cover, getLpm_eq_cover, Option.or_none]

/-- `get_spm` / `get_spm_prefix` / the set's `get_spm` return the first element of that sequence
(`None` when it is empty) -/
theorem getSpm_eq_cover_head (m : PMap w V) (q : Pfx w) : m.getSpm q = (m.cover q).head? :=
  Tree.getSpm_eq m.root q

theorem getSpmPrefix_eq (m : PMap w V) (q : Pfx w) : m.getSpmPrefix q = ((m.cover q).head?).map (·.1) := by
  unfold PMap.getSpmPrefix; rw [getSpm_eq_cover_head]

/-- so shortest-prefix match is of least length among the stored entries covering `q` -/
theorem getSpm_shortest {m : PMap w V} (h : m.TreeWF) (q : Pfx w) (e : Pfx w × V) (he : m.getSpm q = some e)
    (e' : Pfx w × V) (h1 : e' ∈ m.entries) (h2 : e'.1.net <+: q.net) : e.1.len ≤ e'.1.len := by
  rw [getSpm_eq_cover_head, cover_eq h] at he
  exact covering_head h.wf he e' h1 ((contains_iff _ _).2 h2)

/-- on every tree, well-formed or not, `cover(q)` yields at most one item per node.  (The model drains
`Cover` into a list, so that `Cover::next` keeps returning `None` after the last item is not a statement
here: a finished descent re-evaluates a non-`Enter` direction; the correspondence check covers it.) -/
theorem cover_finite (m : PMap w V) (q : Pfx w) : (m.cover q).length ≤ m.root.size :=
  cover_length_le_size m.root q

/-- `cover` / `get_spm` compute the specification's filter and arg-min over the abstract map -/
theorem cover_eq_spec {m : PMap w V} (h : m.TreeWF) (q : Pfx w) : m.cover q = Spec.cover m.entries q :=
  PMap.cover_refines h q

theorem getSpm_eq_spec {m : PMap w V} (h : m.TreeWF) (q : Pfx w) : m.getSpm q = Spec.spm m.entries q :=
  PMap.getSpm_refines h q

theorem length_le_of_strictMono_bounded {α : Type} (f : α → Nat) (n : Nat) :
    ∀ (l : List α) (k : Nat), l.Pairwise (fun a b => f a < f b) → (∀ x ∈ l, k ≤ f x ∧ f x ≤ n) →
      l.length ≤ n + 1 - k :=
  List.Pairwise.length_le_of_bounded f n

/-- `cover(q)` yields at most one entry per prefix length `0 … q.len` -/
theorem cover_length_le {m : PMap w V} (h : m.TreeWF) (q : Pfx w) : (m.cover q).length ≤ q.len + 1 := by
  exact List.Pairwise.length_le_of_bounded (fun e : Pfx w × V => e.1.len) q.len _ 0 (cover_sorted h q)
    fun e he => ⟨Nat.zero_le _, len_le_of_prefix ((mem_cover_iff h q e).1 he).2⟩

end PT.C09
