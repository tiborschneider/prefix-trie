import PT.Lemmas.Union
import PT.Lemmas.Diff
import PT.Lemmas.Map
/-!
# C08 — LPM annotations of union/difference items are true LPMs in the other view

The annotation of an item with prefix `p` is `lpmK B p`, where `B` is the (pre-order, hence
length-sorted along any chain of covering prefixes) entry list of the *other* view: the last entry
of `B` that covers `p`.  `lpmK_spec` says this is a stored entry of the other view, covering `p`, of
maximal length, and `None` exactly when the other view stores no covering prefix — i.e. the answer
of a direct longest-prefix query on the other view's entries (cf. C02).
-/
namespace PT.C08
open Tree SetOps
variable {w : Nat} {L R : Type}

theorem coverK_sorted {b : Tree w R} (hwb : HasWF b) (p : Pfx w) :
    (coverK b.slotEntries p).Pairwise (fun x y => x.2.1.len < y.2.1.len) := by
  obtain ⟨k, hk⟩ := hwb
  have h := covering_sorted hk p
  unfold covering at h
  rw [← slotEntries_snd, List.filter_map, List.pairwise_map] at h
  unfold coverK
  exact h

/-- the annotation function of the specification is the last covering entry of the operand's tree … -/
theorem lpmK_eq_covering (t : Tree w R) (p : Pfx w) : lpmK t.slotEntries p = (covering t p).getLast? := by
  unfold lpmK coverK covering
  rw [← slotEntries_snd t, List.filter_map, List.getLast?_map]
  rfl

/-- what the annotation is: a stored entry of the other view that covers `p` and is the longest such;
`None` exactly when the other view stores no prefix covering `p` -/
theorem lpmK_spec {b : Tree w R} (hwb : HasWF b) (p : Pfx w) :
    (∀ q y, lpmK b.slotEntries p = some (q, y) →
      (∃ s, (s, q, y) ∈ b.slotEntries) ∧ q.net <+: p.net ∧
      ∀ x ∈ b.slotEntries, x.2.1.net <+: p.net → x.2.1.len ≤ q.len) ∧
    (lpmK b.slotEntries p = none ↔ ∀ x ∈ b.slotEntries, ¬ x.2.1.net <+: p.net) := by
  obtain ⟨k, hk⟩ := hwb
  rw [lpmK_eq_covering]
  refine ⟨fun q y h => ?_, ?_⟩
  · obtain ⟨h1, h2, h3⟩ := covering_getLast hk h
    exact ⟨mem_entries_iff_slot.1 h1, (Pfx.contains_iff _ _).1 h2, fun x hx hc =>
      h3 x.2 (mem_entries_iff_slot.2 ⟨x.1, hx⟩) ((Pfx.contains_iff _ _).2 hc)⟩
  · rw [List.getLast?_eq_none_iff, covering, List.filter_eq_nil_iff]
    exact ⟨fun h x hx hc => h x.2 (mem_entries_iff_slot.2 ⟨x.1, hx⟩) ((Pfx.contains_iff _ _).2 hc),
      fun h e he hc => let ⟨s, hs⟩ := mem_entries_iff_slot.1 he; h _ hs ((Pfx.contains_iff _ _).1 hc)⟩

/-- every `DifferenceItem` / `DifferenceMutItem` carries, in `right`, the longest-prefix match of its
prefix among the entries of the other view -/
theorem difference_annotation (a : Tree w L) (b : Tree w R) (hwa : HasWF a) (hwb : HasWF b)
    (it : DItem w L R) (h : it ∈ difference a b) : it.right = lpmK b.slotEntries it.p := by
  rw [difference_eq a b hwa hwb] at h
  obtain ⟨x, _, _, rfl⟩ := mem_diffS.1 h
  exact orE_none_right _

/-- a union item present on the left only reports, for the right side, the longest-prefix match of
its prefix among the right view's entries — and symmetrically -/
theorem union_annotation (a : Tree w L) (b : Tree w R) (hwa : HasWF a) (hwb : HasWF b) :
    (union a b).filterMap UItem.view =
      unionS (fun p => lpmK b.slotEntries p) (fun p => lpmK a.slotEntries p) a.slotEntries b.slotEntries := by
  rw [union_eq a b hwa hwb]
  apply unionS_congr <;> intro x _ <;> exact orE_none_right _

/-- in particular the reported match always covers the item's prefix -/
theorem annotation_covers {b : Tree w R} (hwb : HasWF b) (p q : Pfx w) (y : R)
    (h : lpmK b.slotEntries p = some (q, y)) : q.contains p = true :=
  (Pfx.contains_iff q p).2 ((lpmK_spec hwb p).1 q y h).2.1

/-- … hence, when the other operand is a whole map, exactly what `get_lpm` returns for the item's prefix -/
theorem annotation_eq_getLpm {m : PMap w R} (h : m.TreeWF) (p : Pfx w) :
    lpmK m.root.slotEntries p = m.getLpm p := by
  rw [lpmK_eq_covering, PMap.getLpm_eq_covering h]

/-- every `difference` item against a whole map carries `get_lpm` of its prefix in that map -/
theorem difference_annotation_eq_getLpm (a : Tree w L) {m : PMap w R} (hwa : HasWF a) (h : m.TreeWF)
    (it : DItem w L R) (hit : it ∈ difference a m.root) : it.right = m.getLpm it.p := by
  rw [difference_annotation a m.root hwa ⟨_, h.wf⟩ it hit, annotation_eq_getLpm h]

/-- the union of two whole maps annotates every one-sided item with `get_lpm` of its prefix in the
other map -/
theorem union_annotation_eq_getLpm {ma : PMap w L} {mb : PMap w R} (ha : ma.TreeWF) (hb : mb.TreeWF) :
    (union ma.root mb.root).filterMap UItem.view =
      unionS (fun p => mb.getLpm p) (fun p => ma.getLpm p) ma.root.slotEntries mb.root.slotEntries := by
  rw [union_annotation ma.root mb.root ⟨_, ha.wf⟩ ⟨_, hb.wf⟩]
  have h1 : (fun p => lpmK mb.root.slotEntries p) = (fun p => mb.getLpm p) := funext (annotation_eq_getLpm hb)
  have h2 : (fun p => lpmK ma.root.slotEntries p) = (fun p => ma.getLpm p) := funext (annotation_eq_getLpm ha)
  rw [h1, h2]

end PT.C08
