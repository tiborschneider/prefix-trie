import PT.Lemmas.Ipnet
import PT.Lemmas.Bits
/-!
# C17 — Prefix algebra is sound for every shipped prefix type, incl. boundary lengths

Statements are for every representation width `w` (8, 16, 32, 64, 128 and any other), every valid
prefix (`len ≤ w` is part of `Pfx w`) with arbitrary host bits.  `net p` = the first `len` bits of
`repr`, most significant first.
-/
namespace PT.C17
open Pfx
variable {w : Nat}

/-- contains is exactly bitwise coverage of network parts -/
theorem contains_iff (a b : Pfx w) : a.contains b = true ↔ a.net <+: b.net := Pfx.contains_iff a b

theorem contains_refl (a : Pfx w) : a.contains a = true := (Pfx.contains_iff a a).2 (List.prefix_refl _)

theorem contains_trans (a b c : Pfx w) (h1 : a.contains b = true) (h2 : b.contains c = true) :
    a.contains c = true :=
  (Pfx.contains_iff a c).2 (((Pfx.contains_iff a b).1 h1).trans ((Pfx.contains_iff b c).1 h2))

/-- antisymmetric up to host bits: mutual containment ⇒ equal under the type's `eq` -/
theorem contains_antisymm (a b : Pfx w) (h1 : a.contains b = true) (h2 : b.contains a = true) :
    a.eqv b = true := by
  rw [Pfx.eqv_iff]
  exact ((Pfx.contains_iff a b).1 h1).eq_of_length_le ((Pfx.contains_iff b a).1 h2).length_le

/-- eq compares network part and length only -/
theorem eqv_iff (a b : Pfx w) : a.eqv b = true ↔ a.net = b.net := Pfx.eqv_iff a b

theorem eqv_iff_mask_len (a b : Pfx w) : a.eqv b = true ↔ (a.mask = b.mask ∧ a.len = b.len) := by
  rw [Pfx.eqv, Bool.and_eq_true, beq_iff_eq, beq_iff_eq]

/-- is_bit_set(i) is the i-th leading bit of the network part and false for i ≥ length — for
*every* index `i` (in particular all of 0..=255), with no overflow -/
theorem isBitSet_eq (p : Pfx w) (i : Nat) : p.isBitSet i = (p.net[i]?).getD false := Pfx.isBitSet_eq p i

theorem isBitSet_false_of_len_le (p : Pfx w) (i : Nat) (h : p.len ≤ i) : p.isBitSet i = false := by
  rw [Pfx.isBitSet_eq, Pfx.net_getElem?, if_neg (Nat.not_lt.2 h)]; rfl

theorem lcp_covers_left (a b : Pfx w) : (a.lcp b).contains a = true :=
  (Pfx.contains_iff _ _).2 (Pfx.lcp_prefix_left a b)

theorem lcp_covers_right (a b : Pfx w) : (a.lcp b).contains b = true :=
  (Pfx.contains_iff _ _).2 (Pfx.lcp_prefix_right a b)

/-- symmetric (as a prefix: same network part and length) -/
theorem lcp_symm (a b : Pfx w) : (a.lcp b).eqv (b.lcp a) = true :=
  (Pfx.eqv_iff _ _).2 (Pfx.lcp_net_comm a b)

/-- it is the longest (so its length is min(len a, len b, number of equal leading bits):
`Pfx.le_lcpLen_iff`) -/
theorem lcp_longest (a b : Pfx w) (c : Pfx w) (h1 : c.contains a = true) (h2 : c.contains b = true) :
    c.contains (a.lcp b) = true :=
  (Pfx.contains_iff _ _).2 (Pfx.lcp_max a b _ ((Pfx.contains_iff _ _).1 h1) ((Pfx.contains_iff _ _).1 h2))

theorem lcp_len_le (a b : Pfx w) : (a.lcp b).len ≤ a.len ∧ (a.lcp b).len ≤ b.len :=
  ⟨Pfx.lcpLen_le_left a b, Pfx.lcpLen_le_right a b⟩

/-- zeroed host part -/
theorem lcp_host_zero (a b : Pfx w) (i : Nat) (h : (a.lcp b).len ≤ i) : (a.lcp b).repr.getMsbD i = false :=
  Pfx.lcp_host_zero a b i h

/-- from_repr_len(r, l) has length l and network part r masked to l; zero() is the zero-length prefix -/
theorem fromReprLen_spec (r : BitVec w) (l : Nat) (h : l ≤ w) :
    (fromReprLen r l h).len = l ∧ (fromReprLen r l h).mask = r &&& maskFromLen w l := ⟨rfl, rfl⟩

theorem zero_spec : (zero : Pfx w).len = 0 ∧ (zero : Pfx w).net = [] := ⟨rfl, Pfx.zero_net⟩

theorem maskFromLenRaw_eq (l : Nat) (h : l ≤ w) : maskFromLenRaw w l = some (maskFromLen w l) := by
  rw [Pfx.maskFromLenRaw_eq_ite, if_pos h]

/-- what "valid" excludes: `mask_from_prefix_len` overflows its shift exactly for `len > w` -/
theorem maskFromLenRaw_none_iff (l : Nat) : maskFromLenRaw w l = none ↔ w < l := by
  rw [Pfx.maskFromLenRaw_eq_ite]
  exact ⟨fun h => Nat.lt_of_not_le fun hle => (by rw [if_pos hle] at h; cases h),
    fun h => if_neg (Nat.not_le.2 h)⟩

theorem ipnet_mask_eq (p : Pfx w) : p.ipnetMask = p.mask := rfl

/-- the cidr constructor masks the host part; the network part is that of the generic constructor -/
theorem cidr_fromReprLen_net (r : BitVec w) (l : Nat) (h : l ≤ w) :
    (fromReprLenMasked r l h).net = (fromReprLen r l h).net :=
  Pfx.top_and_maskFromLen_of_le r (Nat.le_refl l)

theorem cidr_fromReprLen_host_zero (r : BitVec w) (l : Nat) (h : l ≤ w) (i : Nat) (hi : l ≤ i) :
    (fromReprLenMasked r l h).repr.getMsbD i = false := by
  rw [fromReprLenMasked, Pfx.getMsbD_and_maskFromLen, decide_eq_false (Nat.not_lt.2 hi), Bool.and_false]

/-- the `Ipv4Net` / `Ipv6Net` override of `contains` — the `ipnet` crate's range test
`network() <= other.network() && other.broadcast() <= broadcast()` on the addresses as unsigned
integers — is the generic bitwise containment, for every width and all host bits -/
theorem ipnet_contains_eq (a b : Pfx w) : a.ipnetContains b = a.contains b := Pfx.ipnetContains_eq a b

/-- the `Ipv4Net` / `Ipv6Net` copy of `longest_common_prefix` (XOR of the un-masked representations)
returns the generic result: same length, same (masked) representation -/
theorem ipnet_lcp_eq (a b : Pfx w) : a.ipnetLcp b = a.lcp b := Pfx.ipnetLcp_eq a b

end PT.C17
