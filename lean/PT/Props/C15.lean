import PT.Lemmas.Canon
import PT.Lemmas.Refine
import PT.Lemmas.Reach
import PT.Lemmas.Writes
/-!
# C15 — Trie stays well-formed; insert/remove shape depends only on the key set

Proved here: (i) well-formedness in every reachable state and the depth bound; (ii) for histories
over the canonical sub-alphabet every value-less non-root node has two children and the shape is a
function of the key set (= the shape of a fresh build in any insertion order; `remove` reverts
`insert`); (iii) shape invariance of `remove_keep_tree` and of value-only operations.
Two notions carry the word: in (ii) `Tree.shape`, keys and value presence of every node (slots and host
bits forgotten); in (iii) `skel`, slots, stored prefixes and links (values forgotten).
(`retain` is a fold of `remove` in the model; that the recursion of `_retain` computes that fold is
`PT.C10.retain_recursion_eq_fold`.)
-/
namespace PT.C15
open Tree Pfx PMap
variable {w : Nat} {V : Type}

/-- in every reachable state the root is the zero-length prefix (slot 0) and every child's prefix
is strictly longer than, covered by, and on the side selected by the next bit of its parent's -/
theorem wellformed_after_any_history (ops : List (Op w V)) : (run ops (PMap.empty : PMap w V)).TreeWF :=
  (run_inv ops).tree

/-- unfolding of `Tree.WF` at a node, in the property's words -/
theorem wf_child {k : List Bool} {s : Nat} {p : Pfx w} {v : Option V} {l r : Tree w V}
    (h : Tree.WF k (.node s p v l r)) (b : Bool) (cs : Nat) (cp : Pfx w) (cv : Option V) (cl cr : Tree w V)
    (hc : child l r b = .node cs cp cv cl cr) :
    p.len < cp.len ∧ p.contains cp = true ∧ toRight p cp = b := by
  have hpre := h.child_node hc
  refine ⟨?_, (contains_iff p cp).2 ((List.prefix_append _ _).trans hpre), toRight_of_prefix hpre⟩
  have := hpre.length_le
  rwa [List.length_append, net_length, net_length] at this

/-- number of nodes on the longest root-to-leaf path -/
def depth : Tree w V → Nat
  | .nil => 0
  | .node _ _ _ l r => 1 + max (depth l) (depth r)

theorem depth_le {k : List Bool} {t : Tree w V} (h : Tree.WF k t) : depth t ≤ w + 1 - k.length := by
  induction t generalizing k with
  | nil => simp [depth]
  | node s p v l r ihl ihr =>
    have hk := h.1.length_le
    have hp := p.hlen
    have h1 := ihl h.2.1
    have h2 := ihr h.2.2
    rw [List.length_append, List.length_singleton, net_length] at h1 h2
    rw [net_length] at hk
    rw [depth]; omega

/-- so every path is at most width+1 nodes long -/
theorem depth_bound {m : PMap w V} (h : m.TreeWF) : depth m.root ≤ w + 1 := by
  have := depth_le h.wf; simpa using this

/-- `remove_keep_tree` (and `OccupiedEntry::remove`) never changes the shape -/
theorem removeKeepTree_shape (m : PMap w V) (q : Pfx w) : skel (m.removeKeepTree q).1.root = skel m.root :=
  skel_takeValue m.root q

/-- value-only operations (`get_mut`, `and_modify`, `OccupiedEntry::get_mut`) never change the shape
nor any stored prefix -/
theorem modify_shape (m : PMap w V) (q : Pfx w) (f : V → V) : skel (m.modify q f).root = skel m.root :=
  skel_modifyValue m.root q f

/-- writes through the `&mut` of a mutable traversal (by slot) never change the shape -/
theorem modifySlot_shape (t : Tree w V) (s : Nat) (f : V → V) : skel (t.modifySlot s f) = skel t :=
  skel_modifySlot t s f

/-- every value-less non-root node has two children, after any history over the canonical
sub-alphabet (`Op.Canonical`: `insert`, the Entry API, `collect`, value writes, `remove`, `retain`
— also one cut short by a panicking predicate — and `clear`; not `remove_keep_tree`,
`remove_children`, view `set` / `remove`) -/
theorem canonical_after_history (ops : List (Op w V)) (hops : ∀ op ∈ ops, op.Canonical) :
    Tree.Canon true (run ops (PMap.empty : PMap w V)).root := run_canonical ops hops

/-- unfolding of `Canon` at a non-root node, in the property's words -/
theorem canon_node {s : Nat} {p : Pfx w} {v : Option V} {l r : Tree w V}
    (h : Tree.Canon false (.node s p v l r)) :
    (v = none → l ≠ .nil ∧ r ≠ .nil) ∧ Tree.Canon false l ∧ Tree.Canon false r := by
  refine ⟨fun hv => ?_, h.2.1, h.2.2⟩
  subst hv
  exact h.two_children.imp (fun hl e => nomatch e ▸ hl) (fun hr e => nomatch e ▸ hr)

/-- **the shape depends only on the key set**: two histories over the canonical sub-alphabet (over
any value types, in any order, with any intermediate states) that end with the same keys end with
the same observable shape (`Tree.shape`: key in network form and value presence of every node, and
the left/right structure) -/
theorem shape_depends_only_on_keys {V' : Type} (ops1 : List (Op w V)) (ops2 : List (Op w V'))
    (h1 : ∀ op ∈ ops1, op.Canonical) (h2 : ∀ op ∈ ops2, op.Canonical)
    (hk : (run ops1 PMap.empty).entries.map (·.1.net) = (run ops2 PMap.empty).entries.map (·.1.net)) :
    Tree.shape (run ops1 (PMap.empty : PMap w V)).root = Tree.shape (run ops2 (PMap.empty : PMap w V')).root :=
  shape_eq_of_keys (run_inv ops1).tree (run_inv ops2).tree (run_canonical ops1 h1) (run_canonical ops2 h2) hk

/-- … in particular it is the shape of a map freshly built (`collect` = repeated `insert`) from the
surviving entries, inserted in *any* order (`xs`: any list with exactly the surviving entries as
members, repetitions allowed) -/
theorem shape_eq_fresh_build (ops : List (Op w V)) (hops : ∀ op ∈ ops, op.Canonical)
    (xs : List (Pfx w × V)) (hx : ∀ e, e ∈ xs ↔ e ∈ (run ops (PMap.empty : PMap w V)).entries) :
    Tree.shape (run ops (PMap.empty : PMap w V)).root = Tree.shape (PMap.collect xs).root := by
  refine shape_eq_of_keys (run_inv ops).tree (collect_inv xs).tree (run_canonical ops hops)
    (collect_canonical xs) ?_
  rw [collect_entries_of_mem (run_inv ops).tree xs hx]

/-- `remove` exactly reverts `insert`: inserting an absent key and removing it again restores the shape -/
theorem remove_reverts_insert {m : PMap w V} (h : m.TreeWF) (c : m.Canonical) (q : Pfx w) (x : V)
    (habs : ∀ e ∈ m.entries, e.1.net ≠ q.net) :
    Tree.shape ((m.insert q x).1.remove q).1.root = Tree.shape m.root ∧
    ((m.insert q x).1.remove q).1.entries = m.entries :=
  have he := remove_insert_entries h q x habs
  ⟨shape_eq_of_keys (remove_treeWF (insert_treeWF h q x) q) h (remove_canonical (insert_canonical c q x) q) c
    (by rw [he]), he⟩

/-- non-vacuity: a canonical history that builds a branching node and dissolves it again -/
example : ∀ op ∈ ([.insert ⟨0x00#8, 2, by omega⟩ 1, .insert ⟨0x40#8, 2, by omega⟩ 2, .remove ⟨0x40#8, 2, by omega⟩,
    .retain (fun _ v => v != 1) (some 1)] : List (Op 8 Nat)), op.Canonical := by
  intro op h
  simp only [List.mem_cons, List.mem_nil_iff, or_false] at h
  rcases h with h | h | h | h <;> subst h <;> trivial

/-- `TrieViewMut::set` / `TrieViewMut::remove` (value insertion / removal through a mutable view)
never change the shape: no node is created, unlinked or re-labelled -/
theorem setAt_shape (t : Tree w V) (path : List Bool) (nv : Option V) : skel (t.setAt path nv) = skel t :=
  skel_setAt t path nv

theorem viewSet_shape (m : PMap w V) (v : View w) (x : V) : skel (m.viewSet v x).1.root = skel m.root := by
  cases hv : v.virt with
  | some q => rw [viewSet_virtual hv]
  | none => rw [viewSet_eq_writeAt hv]; exact setAt_shape ..

theorem viewRemove_shape (m : PMap w V) (v : View w) : skel (m.viewRemove v).1.root = skel m.root := by
  cases hv : v.virt with
  | some q => rw [viewRemove_virtual hv]
  | none => rw [viewRemove_eq_writeAt hv]; exact setAt_shape ..

end PT.C15
