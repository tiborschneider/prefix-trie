import PT.Lemmas.Refine
import PT.Lemmas.Map
/-!
# C01 — Map/set contents match an abstract map after any operation history

The abstract map is the set of entries `m.entries` (pairs of stored representation and value), with
at most one entry per key `net p` (network bits; their number is the prefix length).  Each theorem
states, for every state satisfying the tree invariant `TreeWF` (established for `empty`, preserved
by every operation below — hence for every reachable state of these operations), what the entries
are after the call and that the call returns what the abstract map returns.  Sets are `V = Unit`.
-/
namespace PT.C01
open Tree
variable {w : Nat} {V : Type}

/-- at most one entry per key -/
theorem key_unique {m : PMap w V} (h : m.TreeWF) {e1 e2 : Pfx w × V}
    (h1 : e1 ∈ m.entries) (h2 : e2 ∈ m.entries) (hk : e1.1.net = e2.1.net) : e1 = e2 :=
  WF.key_inj h.wf h1 h2 hk

/-- `get` / `get_mut` / set `contains`: the abstract map's answer for *every* query prefix -/
theorem get_spec {m : PMap w V} (h : m.TreeWF) (q : Pfx w) (x : V) :
    m.get q = some x ↔ ∃ p, (p, x) ∈ m.entries ∧ p.net = q.net := get_iff h.wf q x

theorem get_none_spec {m : PMap w V} (h : m.TreeWF) (q : Pfx w) :
    m.get q = none ↔ ∀ e ∈ m.entries, e.1.net ≠ q.net := get_none_iff h.wf q

/-- `get_key_value` / set `get` / `Entry::key`: the stored representation, never the query -/
theorem getKeyValue_spec {m : PMap w V} (h : m.TreeWF) (q p : Pfx w) (x : V) :
    m.getKeyValue q = some (p, x) ↔ (p, x) ∈ m.entries ∧ p.net = q.net := getKeyValue_iff h.wf q p x

theorem containsKey_spec {m : PMap w V} (h : m.TreeWF) (q : Pfx w) :
    m.containsKey q = true ↔ ∃ e ∈ m.entries, e.1.net = q.net := containsKey_iff h.wf q

/-- host bits of a query are irrelevant -/
theorem get_congr (m : PMap w V) {q q' : Pfx w} (hq : q.net = q'.net) : m.get q = m.get q' := by
  unfold PMap.get Tree.get; rw [findNode_congr hq]

theorem empty_spec : (PMap.empty : PMap w V).TreeWF ∧ (PMap.empty : PMap w V).entries = [] :=
  ⟨PMap.empty_treeWF, rfl⟩

/-- `insert` (= `Entry::insert`, = `OccupiedEntry::insert` when occupied, = `VacantEntry::insert*`
when vacant): returns the previous value; afterwards the key holds `(q, x)` — the representation
passed — and every other entry is untouched -/
theorem insert_spec {m : PMap w V} (h : m.TreeWF) (q : Pfx w) (x : V) :
    (m.insert q x).1.TreeWF ∧ (m.insert q x).2 = m.get q ∧
    ∀ e, e ∈ (m.insert q x).1.entries ↔ e = (q, x) ∨ (e ∈ m.entries ∧ e.1.net ≠ q.net) :=
  ⟨PMap.insert_treeWF h q x, insert_old _ _ _ _ _,
    PMap.insert_mem h q x⟩

/-- `or_insert` / `or_insert_with` / `or_default`: insert only when vacant; the result is the
resident value; an occupied entry keeps representation and value -/
theorem orInsert_spec {m : PMap w V} (h : m.TreeWF) (q : Pfx w) (x : V) :
    (m.orInsert q x).1.TreeWF ∧
    (∀ v, m.get q = some v → (m.orInsert q x) = (m, v)) ∧
    (m.get q = none → (m.orInsert q x).2 = x ∧
      ∀ e, e ∈ (m.orInsert q x).1.entries ↔ e = (q, x) ∨ e ∈ m.entries) := by
  unfold PMap.orInsert PMap.get
  cases hg : m.root.get q with
  | some v => exact ⟨h, fun v' hv => by rw [Option.some.inj hv], nofun⟩
  | none =>
    refine ⟨PMap.insert_treeWF h q x, nofun, fun _ => ⟨rfl, fun e => ?_⟩⟩
    rw [PMap.insert_mem h]
    exact or_congr_right (and_iff_left_of_imp ((get_none_spec h q).1 hg e))

/-- `remove`: returns the stored value; removes exactly the entry with the query's key -/
theorem remove_spec {m : PMap w V} (h : m.TreeWF) (q : Pfx w) :
    (m.remove q).1.TreeWF ∧ (m.remove q).2 = m.get q ∧
    ∀ e, e ∈ (m.remove q).1.entries ↔ e ∈ m.entries ∧ e.1.net ≠ q.net :=
  ⟨PMap.remove_treeWF h q, remove_val _ _ _, fun e => remove_mem h.wf q false e⟩

/-- `remove_keep_tree` and `OccupiedEntry::remove` -/
theorem removeKeepTree_spec {m : PMap w V} (h : m.TreeWF) (q : Pfx w) :
    (m.removeKeepTree q).1.TreeWF ∧ (m.removeKeepTree q).2 = m.get q ∧
    ∀ e, e ∈ (m.removeKeepTree q).1.entries ↔ e ∈ m.entries ∧ e.1.net ≠ q.net :=
  ⟨PMap.removeKeepTree_treeWF h q, rfl, fun e => takeValue_mem h.wf q e⟩

/-- writes through `get_mut`, `Entry::get_mut`, `OccupiedEntry::get_mut`, `and_modify`: the value of
exactly the addressed entry changes, its stored representation and all other entries do not -/
theorem modify_spec {m : PMap w V} (h : m.TreeWF) (q : Pfx w) (f : V → V) :
    (m.modify q f).TreeWF ∧
    ∀ e, e ∈ (m.modify q f).entries ↔
      (e ∈ m.entries ∧ e.1.net ≠ q.net) ∨ (∃ x, (e.1, x) ∈ m.entries ∧ e.1.net = q.net ∧ e.2 = f x) :=
  ⟨PMap.modify_treeWF h q f, fun e => modifyValue_mem h.wf q f e⟩

theorem clear_spec (m : PMap w V) : m.clear.TreeWF ∧ m.clear.entries = [] := empty_spec

/-- `collect` (`FromIterator`): the invariant holds for every input list -/
theorem collect_treeWF (xs : List (Pfx w × V)) : (PMap.collect xs).TreeWF :=
  (PMap.collect_inv xs).tree

/-- non-vacuity: a concrete reachable state with host bits and a leftover value-less node -/
example : ((((PMap.empty : PMap 8 Nat).insert ⟨0x5f#8, 4, by omega⟩ 1).1.insert ⟨0x40#8, 2, by omega⟩ 2).1.removeKeepTree ⟨0x50#8, 4, by omega⟩).1.TreeWF :=
  PMap.removeKeepTree_treeWF (PMap.insert_treeWF (PMap.insert_treeWF PMap.empty_treeWF _ _) _ _) _



/-- **abstract-map refinement**: after *any* finite history of `insert`, `entry().or_insert`, value
writes, `remove`, `remove_keep_tree`, `remove_children`, completed `retain`, `clear`, `collect`,
and `set` / `remove` through mutable views (`view_mut_at` + `left`/`right` steps), starting from the
empty map, the entry list of the trie is the abstract association list to which the same calls were
applied (`PMap.specRun` folds `PMap.specApply`: `Spec.update`, `Spec.erase`, `Spec.modify`, …; the
concrete state is threaded along only to resolve the key a view write addresses, since a view may
sit on a value-less node that the abstract map cannot see) -/
theorem history_refines_abstract_map (ops : List (PMap.Op w V)) (hc : ∀ op ∈ ops, op.Complete) :
    (PMap.run ops (PMap.empty : PMap w V)).entries = PMap.specRun ops PMap.empty [] :=
  PMap.history_refines ops hc

/-- … and `get_key_value` on that state answers what the abstract map answers (`get` is its value part:
`get_eq_spec`) -/
theorem get_after_history (ops : List (PMap.Op w V)) (hc : ∀ op ∈ ops, op.Complete) (q : Pfx w) :
    (PMap.run ops (PMap.empty : PMap w V)).getKeyValue q = Spec.lookup (PMap.specRun ops PMap.empty []) q := by
  rw [← PMap.history_refines ops hc]
  exact PMap.getKeyValue_refines (PMap.run_inv ops).tree q

/-- one step of the refinement, from any state satisfying the invariant -/
theorem step_refines {m : PMap w V} (h : m.Inv) (op : PMap.Op w V) (hc : op.Complete) :
    (op.apply m).entries = PMap.specApply m m.entries op := PMap.apply_refines h.tree op hc

/-- `TrieViewMut::set(x)` on a view at a real node: the entry under the node's key becomes
`(node's existing prefix, x)`, everything else is untouched; on a virtual position nothing changes -/
theorem viewSet_spec {m : PMap w V} (h : m.TreeWF) {v : View w} (hg : View.Good m.root v) (x : V) (e : Pfx w × V) :
    e ∈ (m.viewSet v x).1.entries ↔
      (match v.virt, (v.node m.root).pfx? with
       | none, some np => (e ∈ m.entries ∧ e.1.net ≠ np.net) ∨ e = (np, x)
       | _, _ => e ∈ m.entries) :=
  Iff.of_eq (hg.eq_match (fun _ hv => by rw [PMap.viewSet_virtual hv]) fun _ hv hp => propext (PMap.viewSet_mem h hv hp x e))

/-- `TrieViewMut::remove()`: exactly the view's own entry is removed -/
theorem viewRemove_spec {m : PMap w V} (h : m.TreeWF) {v : View w} (hg : View.Good m.root v) (e : Pfx w × V) :
    e ∈ (m.viewRemove v).1.entries ↔
      (match v.virt, (v.node m.root).pfx? with
       | none, some np => e ∈ m.entries ∧ e.1.net ≠ np.net
       | _, _ => e ∈ m.entries) :=
  Iff.of_eq (hg.eq_match (fun _ hv => by rw [PMap.viewRemove_virtual hv]) fun _ hv hp => propext (PMap.viewRemove_mem h hv hp e))

/-- the lookup of the abstract map: the entry with the key of `q`, if any -/
theorem get_eq_spec {m : PMap w V} (h : m.TreeWF) (q : Pfx w) :
    m.getKeyValue q = Spec.lookup m.entries q ∧ m.get q = (Spec.lookup m.entries q).map (·.2) :=
  ⟨PMap.getKeyValue_refines h q, PMap.get_refines h q⟩

/-- non-vacuity of the history theorem: a history with a re-insert under a different representation,
a value write, a structural and a keep-tree removal and a completed retain -/
example : ∀ op ∈ ([.insert ⟨0x5f#8, 4, by omega⟩ 1, .insert ⟨0x50#8, 4, by omega⟩ 2, .modify ⟨0x51#8, 4, by omega⟩ (· + 1),
    .removeKeepTree ⟨0x40#8, 2, by omega⟩, .retain (fun _ v => v != 0) none, .remove ⟨0x50#8, 4, by omega⟩,
    .viewSet ⟨0x40#8, 1, by omega⟩ [true] 7] : List (PMap.Op 8 Nat)),
    op.Complete := by
  intro op h
  simp only [List.mem_cons, List.mem_nil_iff, or_false] at h
  rcases h with h | h | h | h | h | h | h <;> subst h <;> first | trivial | rfl

end PT.C01
