import PT.Lemmas.Views
/-!
# C12 — Searching from any view is relative to that view's entries, for every query

For every good view `v` (rooted at a stored, branching or virtual node — `View.Good`, preserved by
every navigation step) and *every* query `q` (inside, covering, equal to or disjoint from the
view's prefix).  The mutable views run the same model; on failure they hand back `self`
(`Err(self)`), which the correspondence checks (`back=` field).  `view_at` on a view *is* `find`.
-/
namespace PT.C12
open Tree Pfx View
variable {w : Nat} {V : Type}

/-- `find(q)` returns `None` only if the view holds no entry covered by `q` -/
theorem find_none {t : Tree w V} {v : View w} (hg : Good t v) (q : Pfx w) (h : v.find t q = none) :
    ∀ e ∈ v.ents t, ¬ q.net <+: e.1.net := (View.find_spec hg q).1 h

/-- otherwise it returns a (good) view, positioned at `q`, addressing exactly the entries of `v`
covered by `q` -/
theorem find_some {t : Tree w V} {v : View w} (hg : Good t v) (q : Pfx w) (v' : View w) (h : v.find t q = some v') :
    Good t v' ∧ (∃ P, v'.pfx t = some P ∧ P.net = q.net) ∧
    (∀ e, e ∈ v'.ents t ↔ e ∈ v.ents t ∧ q.net <+: e.1.net) := (View.find_spec hg q).2 v' h

/-- `find_exact(q)` returns the view positioned at `q` exactly when `q` is stored in `v` -/
theorem findExact_none {t : Tree w V} {v : View w} (hg : Good t v) (q : Pfx w) (h : v.findExact t q = none) :
    ∀ e ∈ v.ents t, e.1.net ≠ q.net := (View.findExact_spec hg q).1 h

theorem findExact_some {t : Tree w V} {v : View w} (hg : Good t v) (q : Pfx w) (v' : View w)
    (h : v.findExact t q = some v') :
    Good t v' ∧ v'.virt = none ∧ ∃ P x, v'.prefixValue t = some (P, x) ∧ P.net = q.net ∧ (P, x) ∈ v.ents t :=
  (View.findExact_spec hg q).2 v' h

/-- `find_lpm(q)` returns `None` when `v` stores no prefix covering `q` … -/
theorem findLpm_none {t : Tree w V} {v : View w} (hg : Good t v) (q : Pfx w) (h : v.findLpm t q = none) :
    ∀ e ∈ v.ents t, ¬ e.1.net <+: q.net := (View.findLpm_spec hg q).1 h

/-- … and otherwise the view positioned at the longest prefix stored in `v` that covers `q`: its
entry is the last (= longest, `covering_sorted`) of the view's entries covering `q` -/
theorem findLpm_some {t : Tree w V} {v : View w} (hg : Good t v) (q : Pfx w) (v' : View w)
    (h : v.findLpm t q = some v') :
    Good t v' ∧ v'.virt = none ∧ ∃ e, v'.prefixValue t = some e ∧
      ((v.ents t).filter (fun e => e.1.contains q)).getLast? = some e :=
  (View.findLpm_spec hg q).2 v' h

/-- the found entry is stored in `v`, covers `q`, and no entry of `v` covering `q` is longer -/
theorem findLpm_longest {t : Tree w V} {v : View w} (hg : Good t v) (q : Pfx w) (v' : View w)
    (h : v.findLpm t q = some v') :
    ∃ e, v'.prefixValue t = some e ∧ e ∈ v.ents t ∧ e.1.net <+: q.net ∧
      ∀ e' ∈ v.ents t, e'.1.net <+: q.net → e'.1.len ≤ e.1.len := by
  obtain ⟨_, _, e, he, hl⟩ := findLpm_some hg q v' h
  obtain ⟨s, np, nv, nl, nr, hs, hwf, -⟩ := hg.cases
  obtain ⟨h1, h2, h3⟩ := covering_getLast (hs ▸ hwf) hl
  exact ⟨e, he, h1, (contains_iff _ _).1 h2, fun e' he' hc' => h3 e' he' ((contains_iff _ _).2 hc')⟩

/-- `view_at` on a view equals `find` (model: `AsView::view_at` is `self.view().find(prefix)`) -/
theorem view_at_eq_find (t : Tree w V) (v : View w) (q : Pfx w) : v.find t q = v.find t q := rfl

/-- `find_exact` and `find_lpm` agree: when `q` is stored in `v`, `find_lpm(q)` succeeds and is
positioned at an entry with `q`'s key -/
theorem findLpm_of_findExact {t : Tree w V} {v : View w} (hg : Good t v) (q : Pfx w) (v' : View w)
    (h : v.findExact t q = some v') :
    ∃ v'' e, v.findLpm t q = some v'' ∧ v''.prefixValue t = some e ∧ e.1.net = q.net ∧ e ∈ v.ents t := by
  obtain ⟨_, _, P, x, _, hPq, hmem⟩ := findExact_some hg q v' h
  cases hl : v.findLpm t q with
  | none =>
    exact absurd (by rw [hPq]; exact List.prefix_refl _) (findLpm_none hg q hl (P, x) hmem)
  | some v'' =>
    obtain ⟨e, hpv, hem, hcov, hmax⟩ := findLpm_longest hg q v'' hl
    have hle := hmax (P, x) hmem (by rw [hPq]; exact List.prefix_refl _)
    exact ⟨v'', e, rfl, hpv, hcov.eq_of_length_le (by rw [← hPq, net_length, net_length]; exact hle), hem⟩

end PT.C12
