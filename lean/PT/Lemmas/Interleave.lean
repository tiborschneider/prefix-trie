/-!
# Interleavings: concurrent = sequential for actions that commute across two threads

`Interleave w1 w2 ws`: `ws` is a schedule of the two action sequences.  If actions of different threads
commute on every state satisfying an invariant that all actions keep, folding any schedule gives the state
of `w1 ++ w2` (`Interleave.foldl_eq`).  Generic in state, action, invariant and cross-relation; the writes by
slot (`Writes.lean`) and through views (`ViewComm.lean`) are its two instances.
-/
namespace Tree

inductive Interleave {α : Type} : List α → List α → List α → Prop
  | nil : Interleave [] [] []
  | left {a : α} {l1 l2 l : List α} : Interleave l1 l2 l → Interleave (a :: l1) l2 (a :: l)
  | right {a : α} {l1 l2 l : List α} : Interleave l1 l2 l → Interleave l1 (a :: l2) (a :: l)

section
variable {σ α : Type} {act : σ → α → σ} {ok : σ → Prop} {P : α → Prop} {R : α → α → Prop}
  (hok : ∀ s a, ok s → P a → ok (act s a))
  (hcomm : ∀ s a b, ok s → P a → P b → R a b → act (act s a) b = act (act s b) a)
include hok hcomm

theorem foldl_comm_one {l : List α} {b : α} (hl : ∀ a ∈ l, P a ∧ R a b) (hb : P b) {s : σ} (hs : ok s) :
    l.foldl act (act s b) = act (l.foldl act s) b := by
  induction l generalizing s with
  | nil => rfl
  | cons a l ih =>
    have ha := hl a (List.mem_cons_self ..)
    rw [List.foldl_cons, List.foldl_cons, ← hcomm s a b hs ha.1 hb ha.2]
    exact ih (fun x hx => hl x (List.mem_cons_of_mem _ hx)) (hok s a hs ha.1)

theorem Interleave.foldl_eq {w1 w2 ws : List α} (hi : Interleave w1 w2 ws)
    (h1 : ∀ a ∈ w1, P a) (h2 : ∀ b ∈ w2, P b) (hdis : ∀ a ∈ w1, ∀ b ∈ w2, R a b) {s : σ} (hs : ok s) :
    ws.foldl act s = (w1 ++ w2).foldl act s := by
  induction hi generalizing s with
  | nil => rfl
  | @left a l1 l2 l _ ih =>
    exact ih (fun x hx => h1 x (List.mem_cons_of_mem _ hx)) h2
      (fun x hx y hy => hdis x (List.mem_cons_of_mem _ hx) y hy) (hok s a hs (h1 a (List.mem_cons_self ..)))
  | @right a l1 l2 l _ ih =>
    have ha := h2 a (List.mem_cons_self ..)
    rw [List.foldl_cons, ih h1 (fun y hy => h2 y (List.mem_cons_of_mem _ hy))
      (fun x hx y hy => hdis x hx y (List.mem_cons_of_mem _ hy)) (hok s a hs ha),
      List.foldl_append, List.foldl_append, List.foldl_cons,
      foldl_comm_one hok hcomm (fun x hx => ⟨h1 x hx, hdis x hx a (List.mem_cons_self ..)⟩) ha hs]

end

end Tree
