import PT.Lemmas.Reach
import PT.Lemmas.RetainFold
import PT.Lemmas.SpecMap
/-!
# The model refines the specification layer (`PT/Spec.lean`) that the driver evaluates

On well-formed states the entry list of the model *is* the abstract map from which the driver computes
its `S` lines.  Where the tree lemma is a list equality (`remove_entries`, `modifyValue_entries`, `setAt_none_entries`, …) the
refinement is that equality.  Where it is a membership characterisation (`insert`, `retain`, `set`
through a view) both sides are key-sorted lists with the same members, hence equal (`TreeWF.entries_eq`).
-/
namespace PMap
variable {w : Nat} {V : Type}
open Tree

theorem TreeWF.entries_sorted {m : PMap w V} (h : m.TreeWF) : Spec.Sorted m.entries := Tree.entries_sorted h.wf

theorem TreeWF.entries_eq {m : PMap w V} (h : m.TreeWF) {s : Spec.SMap w V} (hs : Spec.Sorted s)
    (hm : ∀ e, e ∈ m.entries ↔ e ∈ s) : m.entries = s :=
  Spec.eq_of_sorted h.entries_sorted hs hm

theorem getKeyValue_refines {m : PMap w V} (h : m.TreeWF) (q : Pfx w) :
    m.getKeyValue q = Spec.lookup m.entries q := by
  unfold PMap.getKeyValue PMap.entries Spec.lookup
  rw [← List.head?_filter, List.filter_congr fun e _ => Spec.sameKey_eq_eqv e.1 q, ← getKeyValue_toList h.wf q]
  cases m.root.getKeyValue q <;> rfl

theorem get_refines {m : PMap w V} (h : m.TreeWF) (q : Pfx w) :
    m.get q = (Spec.lookup m.entries q).map (·.2) := by
  rw [← getKeyValue_refines h]; exact get_eq m.root q

theorem cover_refines {m : PMap w V} (h : m.TreeWF) (q : Pfx w) : m.cover q = Spec.cover m.entries q :=
  (cover_eq_covering h.wf (h.rootCovers q)).trans
    (List.filter_congr fun e _ => (Spec.covers_eq_contains e.1 q).symm)

theorem cover_sorted {m : PMap w V} (h : m.TreeWF) (q : Pfx w) :
    (m.cover q).Pairwise (fun a b => a.1.len < b.1.len) := by
  rw [PMap.cover, cover_eq_covering h.wf (h.rootCovers q)]; exact covering_sorted h.wf q

theorem getLpm_refines {m : PMap w V} (h : m.TreeWF) (q : Pfx w) : m.getLpm q = Spec.lpm m.entries q := by
  rw [Spec.lpm, ← cover_refines h, Spec.fold_longest_eq_getLast _ (cover_sorted h q) none nofun,
    PMap.getLpm, getLpm_eq_cover, PMap.cover]

theorem getSpm_refines {m : PMap w V} (h : m.TreeWF) (q : Pfx w) : m.getSpm q = Spec.spm m.entries q := by
  rw [Spec.spm, ← cover_refines h, Spec.fold_shortest_eq_head _ (cover_sorted h q), PMap.getSpm, Tree.getSpm_eq,
    PMap.cover]

theorem children_refines {m : PMap w V} (h : m.TreeWF) (q : Pfx w) :
    m.childrenIter q = Spec.children m.entries q := by
  unfold PMap.childrenIter
  rw [iterAll_root, childrenStart_entries h.wf (h.rootCovers q)]
  exact List.filter_congr fun e _ => (Spec.covers_eq_contains q e.1).symm

theorem iter_refines (m : PMap w V) : m.iter = m.entries := iterAll_root m.root

theorem insert_refines {m : PMap w V} (h : m.TreeWF) (q : Pfx w) (x : V) :
    (m.insert q x).1.entries = Spec.update m.entries q x :=
  (insert_treeWF h q x).entries_eq (h.entries_sorted.update q x) fun e =>
    (insert_mem h q x e).trans Spec.mem_update.symm

theorem remove_refines {m : PMap w V} (h : m.TreeWF) (q : Pfx w) :
    (m.remove q).1.entries = Spec.erase m.entries q :=
  (remove_entries h.wf q false).trans (List.filter_congr fun e _ => by rw [Spec.sameKey_eq_eqv])

theorem remove_insert_entries {m : PMap w V} (h : m.TreeWF) (q : Pfx w) (x : V)
    (habs : ∀ e ∈ m.entries, e.1.net ≠ q.net) : ((m.insert q x).1.remove q).1.entries = m.entries := by
  have hi := insert_treeWF h q x
  refine (remove_treeWF hi q).entries_eq h.entries_sorted fun e => ?_
  rw [remove_refines hi, insert_refines h, Spec.mem_erase, Spec.mem_update]
  constructor
  · rintro ⟨rfl | ⟨he, _⟩, hne⟩
    · exact absurd rfl hne
    · exact he
  · exact fun he => ⟨.inr ⟨he, habs e he⟩, habs e he⟩

theorem removeKeepTree_refines {m : PMap w V} (h : m.TreeWF) (q : Pfx w) :
    (m.removeKeepTree q).1.entries = Spec.erase m.entries q :=
  (takeValue_entries h.wf q).trans (List.filter_congr fun e _ => by rw [Spec.sameKey_eq_eqv])

theorem modify_refines {m : PMap w V} (h : m.TreeWF) (q : Pfx w) (f : V → V) :
    (m.modify q f).entries = Spec.modify m.entries q f :=
  (modifyValue_entries h.wf q f).trans (List.map_congr_left fun e _ => by
    rw [modEntry, Spec.sameKey_eq_eqv])

theorem removeChildren_refines {m : PMap w V} (h : m.TreeWF) (q : Pfx w) :
    (m.removeChildren q).entries = Spec.removeChildren m.entries q :=
  (removeChildren_entries h q).trans (List.filter_congr fun e _ => by rw [Spec.covers_eq_contains])

theorem retain_refines {m : PMap w V} (h : m.TreeWF) (f : Pfx w → V → Bool) :
    (m.retain f).entries = Spec.retain m.entries f :=
  (retain_treeWF h f).entries_eq (h.entries_sorted.filter _) fun e =>
    (retain_mem h f e).trans (List.mem_filter (p := fun e : Pfx w × V => f e.1 e.2)).symm

theorem collect_refines (xs : List (Pfx w × V)) : (collect xs).entries = Spec.collect xs :=
  (List.foldl_rel (r := fun (m : PMap w V) s => m.TreeWF ∧ m.entries = s) ⟨empty_treeWF, rfl⟩
    fun e _ _ _ ⟨hm, hs⟩ => ⟨insert_treeWF hm e.1 e.2, hs ▸ insert_refines hm e.1 e.2⟩).2

theorem collect_mem (xs : List (Pfx w × V)) (hnd : (xs.map (fun e => e.1.net)).Nodup) (e : Pfx w × V) :
    e ∈ (collect xs).entries ↔ e ∈ xs := by
  rw [collect_refines]
  exact Spec.mem_collect ((List.pairwise_map.1 hnd).imp fun h e => absurd e h) e

theorem collect_entries_of_mem {m : PMap w V} (h : m.TreeWF) (xs : List (Pfx w × V))
    (hx : ∀ e, e ∈ xs ↔ e ∈ m.entries) : (collect xs).entries = m.entries :=
  (collect_inv xs).tree.entries_eq h.entries_sorted fun e => by
    rw [collect_refines, ← hx]
    exact Spec.mem_collect (List.pairwise_of_forall_mem_list fun a ha b hb =>
      WF.key_inj h.wf ((hx a).1 ha) ((hx b).1 hb)) e

theorem viewSet_entries {m : PMap w V} (h : m.TreeWF) {v : View w} (hv : v.virt = none) {np : Pfx w}
    (hp : (v.node m.root).pfx? = some np) (x : V) : (m.viewSet v x).1.entries = Spec.update m.entries np x :=
  (viewSet_treeWF h v x).entries_eq (h.entries_sorted.update np x) fun e =>
    (viewSet_mem h hv hp x e).trans (or_comm.trans Spec.mem_update.symm)

theorem viewRemove_entries {m : PMap w V} (h : m.TreeWF) {v : View w} (hv : v.virt = none) {np : Pfx w}
    (hp : (v.node m.root).pfx? = some np) : (m.viewRemove v).1.entries = Spec.erase m.entries np := by
  rw [viewRemove_eq_writeAt hv]
  exact (setAt_none_entries h.wf hp).trans (List.filter_congr fun e _ => by rw [Spec.sameKey_eq_eqv])

theorem viewSet_refines {m : PMap w V} (h : m.TreeWF) {v : View w} (hg : View.Good m.root v) (x : V) :
    (m.viewSet v x).1.entries =
      (match v.virt, (v.node m.root).pfx? with
       | none, some np => Spec.update m.entries np x
       | _, _ => m.entries) :=
  hg.eq_match (fun _ hv => by rw [viewSet_virtual hv]) fun _ hv hp => viewSet_entries h hv hp x

theorem viewRemove_refines {m : PMap w V} (h : m.TreeWF) {v : View w} (hg : View.Good m.root v) :
    (m.viewRemove v).1.entries =
      (match v.virt, (v.node m.root).pfx? with
       | none, some np => Spec.erase m.entries np
       | _, _ => m.entries) :=
  hg.eq_match (fun _ hv => by rw [viewRemove_virtual hv]) fun _ hv hp => viewRemove_entries h hv hp

/-- the stored prefix of the real node at which `view_mut_at(q)` + navigation `cs` arrives
(`none`: no such view, or a virtual position, where `set` fails and `remove` has nothing to take) -/
def viewTarget (m : PMap w V) (q : Pfx w) (cs : List Bool) : Option (Pfx w) :=
  match m.viewAtNav q cs with
  | some v => (match v.virt, (v.node m.root).pfx? with
    | none, some np => some np
    | _, _ => none)
  | none => none

/-- the specification-level transformer of each mutator.  It is a function of the abstract map and
the call alone, except for writes through views: a view may sit on a value-less node, which the
abstract map cannot see, so the key they address (`viewTarget`) is read off the concrete state `m`. -/
def specApply (m : PMap w V) (s : Spec.SMap w V) : Op w V → Spec.SMap w V
  | .insert q x => Spec.update s q x
  | .orInsert q x => if (Spec.lookup s q).isSome then s else Spec.update s q x
  | .modify q f => Spec.modify s q f
  | .remove q => Spec.erase s q
  | .removeKeepTree q => Spec.erase s q
  | .removeChildren q => Spec.removeChildren s q
  | .retain f _ => Spec.retain s f
  | .clear => []
  | .collect xs => Spec.collect xs
  | .viewSet q cs x => (match m.viewTarget q cs with | some np => Spec.update s np x | none => s)
  | .viewRemove q cs => (match m.viewTarget q cs with | some np => Spec.erase s np | none => s)

/-- a `retain` that ran to completion (its predicate did not panic) -/
def Op.Complete : Op w V → Prop
  | .retain _ stop => stop = none
  | _ => True

/-- the two view cases of `apply_refines` at once: `write` is the call on the view reached, `spec np` its
effect on the abstract map when that view sits on the real node with prefix `np`.  The hypothesis is
`viewSet_refines` / `viewRemove_refines`; the conclusion adds the case that no view is reached and states
the result through `viewTarget`, as `Op.apply` and `specApply` do. -/
theorem viewWrite_refines {m : PMap w V} (q : Pfx w) (cs : List Bool) (write : View w → PMap w V)
    (spec : Pfx w → Spec.SMap w V)
    (hw : ∀ v, m.viewAtNav q cs = some v → (write v).entries =
      match v.virt, (v.node m.root).pfx? with | none, some np => spec np | _, _ => m.entries) :
    (match m.viewAtNav q cs with | some v => write v | none => m).entries =
      match m.viewTarget q cs with | some np => spec np | none => m.entries := by
  unfold viewTarget
  cases hv : m.viewAtNav q cs with
  | none => rfl
  | some v =>
    dsimp only
    rw [hw v hv]
    cases v.virt <;> cases (v.node m.root).pfx? <;> rfl

theorem apply_refines {m : PMap w V} (h : m.TreeWF) (op : Op w V) (hc : op.Complete) :
    (op.apply m).entries = specApply m m.entries op := by
  cases op with
  | insert q x => exact insert_refines h q x
  | orInsert q x =>
    show (m.orInsert q x).1.entries = if (Spec.lookup m.entries q).isSome then _ else _
    rw [orInsert_fst, show m.root.get q = _ from get_refines h q, Option.isSome_map]
    split
    · rfl
    · exact insert_refines h q x
  | modify q f => exact modify_refines h q f
  | remove q => exact remove_refines h q
  | removeKeepTree q => exact removeKeepTree_refines h q
  | removeChildren q => exact removeChildren_refines h q
  | retain f stop =>
    have : stop = none := hc
    subst this
    exact retain_refines h f
  | clear => rfl
  | collect xs => exact collect_refines xs
  | viewSet q cs x =>
    exact viewWrite_refines q cs (fun v => (m.viewSet v x).1) _ fun v hv =>
      viewSet_refines h (viewAtNav_good h hv) x
  | viewRemove q cs =>
    exact viewWrite_refines q cs (fun v => (m.viewRemove v).1) _ fun v hv =>
      viewRemove_refines h (viewAtNav_good h hv)

/-- the concrete state is threaded along only to resolve the key addressed by view writes -/
def specRun : List (Op w V) → PMap w V → Spec.SMap w V → Spec.SMap w V
  | [], _, s => s
  | op :: ops, m, s => specRun ops (op.apply m) (specApply m s op)

theorem Inv.run_refines {m : PMap w V} (hm : m.Inv) (ops : List (Op w V)) (hc : ∀ op ∈ ops, op.Complete) :
    (PMap.run ops m).entries = specRun ops m m.entries := by
  induction ops generalizing m with
  | nil => rfl
  | cons op ops ih =>
    rw [PMap.run, List.foldl_cons, specRun, ← apply_refines hm.tree op (hc op (List.mem_cons_self ..))]
    exact ih (apply_inv hm op) fun o ho => hc o (List.mem_cons_of_mem _ ho)

theorem history_refines (ops : List (Op w V)) (hc : ∀ op ∈ ops, op.Complete) :
    (run ops (empty : PMap w V)).entries = specRun ops empty [] := empty_inv.run_refines ops hc

end PMap
