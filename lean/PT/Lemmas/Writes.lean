import PT.Lemmas.Order
import PT.Lemmas.Shape
import PT.SetOps
import PT.Lemmas.Interleave
/-!
# Writes through the `&mut` handed out by mutable traversals

A write is `modifySlot k f`: it changes the value in slot `k` and nothing else (`slotEntries_modifySlot`,
`skel_modifySlot`).  Writes to different slots commute, so any interleaving of two write sequences on
disjoint slot sets equals doing one after the other (`interleave_eq_append`).
-/
namespace Tree
variable {w : Nat} {V : Type}

theorem slotEntries_slots_sublist (t : Tree w V) : (t.slotEntries.map (·.1)).Sublist t.slots := by
  induction t with
  | nil => simp [slotEntries, slots]
  | node s p v l r ihl ihr =>
    simp only [slotEntries, slots, List.map_append]
    cases v with
    | none =>
      simp only [List.map_nil, List.nil_append]
      exact List.Sublist.cons _ (List.Sublist.append ihl ihr)
    | some x =>
      simp only [List.map_cons, List.map_nil, List.cons_append, List.nil_append]
      exact (List.Sublist.append ihl ihr).cons_cons _

theorem slotEntries_slots_nodup {t : Tree w V} (h : t.slots.Nodup) : (t.slotEntries.map (·.1)).Nodup :=
  (slotEntries_slots_sublist t).nodup h

theorem slotEntries_slot_mem (t : Tree w V) : ∀ it ∈ t.slotEntries, it.1 ∈ t.slots := fun _ hit =>
  (slotEntries_slots_sublist t).subset (List.mem_map_of_mem hit)

theorem modifySlot_of_not_mem (t : Tree w V) (k : Nat) (f : V → V) (h : k ∉ t.slots) : t.modifySlot k f = t := by
  induction t with
  | nil => rfl
  | node s p v l r ihl ihr =>
    simp only [slots, List.mem_cons, List.mem_append, not_or] at h
    unfold modifySlot
    have : ¬ s = k := fun e => h.1 e.symm
    simp [this, ihl h.2.1, ihr h.2.2]

theorem slotEntries_map_of_not_mem (t : Tree w V) {k : Nat} (h : k ∉ t.slots) (g : Nat × Pfx w × V → Nat × Pfx w × V) :
    t.slotEntries.map (fun it => if it.1 = k then g it else it) = t.slotEntries := by
  refine (List.map_congr_left fun it hit => ?_).trans (List.map_id _)
  exact if_neg fun (e : it.1 = k) => h (e ▸ slotEntries_slot_mem t it hit)

theorem slotEntries_modifySlot (t : Tree w V) (k : Nat) (f : V → V) (hnd : t.slots.Nodup) :
    (t.modifySlot k f).slotEntries =
      t.slotEntries.map (fun it => if it.1 = k then (it.1, it.2.1, f it.2.2) else it) := by
  induction t with
  | nil => rfl
  | node s p v l r ihl ihr =>
    simp only [slots, List.nodup_cons, List.mem_append, not_or, List.nodup_append] at hnd
    obtain ⟨⟨hsl, hsr⟩, hl, hr, -⟩ := hnd
    unfold modifySlot
    by_cases hk : s = k
    · subst hk
      simp only [ite_true, slotEntries, List.map_append, slotEntries_map_of_not_mem l hsl,
        slotEntries_map_of_not_mem r hsr]
      cases v <;> simp
    · simp only [hk, ite_false, slotEntries, List.map_append, ihl hl, ihr hr]
      cases v <;> simp [hk]

theorem skel_modifySlot (t : Tree w V) (k : Nat) (f : V → V) : PT.C15.skel (t.modifySlot k f) = PT.C15.skel t := by
  induction t with
  | nil => rfl
  | node s p v l r ihl ihr => unfold modifySlot; split <;> simp only [PT.C15.skel, ihl, ihr]

theorem slots_modifySlot (t : Tree w V) (k : Nat) (f : V → V) : (t.modifySlot k f).slots = t.slots :=
  slots_of_skel (skel_modifySlot t k f)

theorem modifySlot_comm (t : Tree w V) {k1 k2 : Nat} (h : k1 ≠ k2) (f g : V → V) :
    (t.modifySlot k1 f).modifySlot k2 g = (t.modifySlot k2 g).modifySlot k1 f := by
  induction t with
  | nil => rfl
  | node s p v l r ihl ihr =>
    by_cases h1 : s = k1 <;> by_cases h2 : s = k2
    · exact absurd (h1.symm.trans h2) h
    · subst h1; simp [modifySlot, h]
    · subst h2; have h' : ¬ s = k1 := h1; simp [modifySlot, h']
    · simp [modifySlot, h1, h2, ihl, ihr]

def applyWrites (t : Tree w V) (ws : List (Nat × (V → V))) : Tree w V :=
  ws.foldl (fun t x => t.modifySlot x.1 x.2) t

theorem applyWrites_append (t : Tree w V) (w1 w2 : List (Nat × (V → V))) :
    applyWrites t (w1 ++ w2) = applyWrites (applyWrites t w1) w2 := by
  simp [applyWrites, List.foldl_append]

theorem interleave_eq_append (t : Tree w V) {w1 w2 ws : List (Nat × (V → V))} (hi : Interleave w1 w2 ws)
    (hdis : ∀ x ∈ w1, ∀ y ∈ w2, x.1 ≠ y.1) : applyWrites t ws = applyWrites t (w1 ++ w2) :=
  hi.foldl_eq (ok := fun _ => True) (P := fun _ => True) (R := fun x y => x.1 ≠ y.1)
    (fun _ _ _ _ => trivial) (fun t x y _ _ _ h => modifySlot_comm t h x.2 y.2)
    (fun _ _ => trivial) (fun _ _ => trivial) hdis trivial

end Tree
