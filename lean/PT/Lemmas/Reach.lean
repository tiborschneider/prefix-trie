import PT.Lemmas.RemoveChildren
import PT.Lemmas.ViewWrites
import PT.Lemmas.Canon
/-!
# Histories: the alphabet of mutators, and the invariant in every state reachable from the empty map

A reachable state is `run ops empty` for a list `ops` of `Op`s; the properties "after any history" are
stated over it, and `apply_inv` is the one place where every mutator's preservation lemma is called; `apply_canonical` is
the same table for the canonical-shape clause, over its sub-alphabet.
-/
namespace PMap
variable {w : Nat} {V : Type}

/-- the mutator alphabet covered by the invariant theorems (value-only writes are `modify`;
`Entry::insert` = `insert`; `or_insert*`, `VacantEntry::insert*` = `orInsert`;
`OccupiedEntry::remove` = `removeKeepTree`; `viewSet q cs x` / `viewRemove q cs` = `view_mut_at(q)`,
`left()`/`right()` steps `cs`, then `TrieViewMut::set(x)` / `remove()` — a no-op when the view does not
exist) -/
inductive Op (w : Nat) (V : Type) where
  | insert (q : Pfx w) (x : V)
  | orInsert (q : Pfx w) (x : V)
  | modify (q : Pfx w) (f : V → V)
  | remove (q : Pfx w)
  | removeKeepTree (q : Pfx w)
  | removeChildren (q : Pfx w)
  | retain (f : Pfx w → V → Bool) (stop : Option Nat)
  | clear
  | collect (xs : List (Pfx w × V))
  | viewSet (q : Pfx w) (cs : List Bool) (x : V)
  | viewRemove (q : Pfx w) (cs : List Bool)

def Op.apply (m : PMap w V) : Op w V → PMap w V
  | .insert q x => (m.insert q x).1
  | .orInsert q x => (m.orInsert q x).1
  | .modify q f => m.modify q f
  | .remove q => (m.remove q).1
  | .removeKeepTree q => (m.removeKeepTree q).1
  | .removeChildren q => m.removeChildren q
  | .retain f stop => m.retain f stop
  | .clear => m.clear
  | .collect xs => PMap.collect xs
  | .viewSet q cs x => m.viewSetAt q cs x
  | .viewRemove q cs => m.viewRemoveAt q cs

def run (ops : List (Op w V)) (m : PMap w V) : PMap w V := ops.foldl Op.apply m

theorem apply_inv {m : PMap w V} (h : m.Inv) (op : Op w V) : (op.apply m).Inv := by
  cases op with
  | insert q x => exact insert_inv h q x
  | orInsert q x => exact orInsert_inv h q x
  | modify q f => exact modify_inv h q f
  | remove q => exact remove_inv h q
  | removeKeepTree q => exact removeKeepTree_inv h q
  | removeChildren q => exact removeChildren_inv h q
  | retain f stop => exact retain_inv h f stop
  | clear => exact clear_inv m
  | collect xs => exact collect_inv xs
  | viewSet q cs x => exact viewSetAt_inv h q cs x
  | viewRemove q cs => exact viewRemoveAt_inv h q cs

theorem Inv.run {m : PMap w V} (h : m.Inv) (ops : List (Op w V)) : (run ops m).Inv :=
  List.foldlRecOn (motive := Inv) ops _ h fun _ h op _ => apply_inv h op

theorem run_inv (ops : List (Op w V)) : (run ops (empty : PMap w V)).Inv := empty_inv.run ops

/-- the sub-alphabet of the canonical-shape clause: insertion (`insert`, Entry API, `collect`),
value writes, `remove`, `retain` (complete or cut short by a panicking predicate) and `clear` -/
def Op.Canonical : Op w V → Prop
  | .removeKeepTree _ => False
  | .removeChildren _ => False
  | .viewSet _ _ _ => False
  | .viewRemove _ _ => False
  | _ => True

theorem apply_canonical {m : PMap w V} (h : m.Canonical) (op : Op w V) (hop : op.Canonical) :
    (op.apply m).Canonical := by
  cases op with
  | insert q x => exact insert_canonical h q x
  | orInsert q x => exact orInsert_canonical h q x
  | modify q f => exact modify_canonical h q f
  | remove q => exact remove_canonical h q
  | removeKeepTree q => cases hop
  | removeChildren q => cases hop
  | retain f stop => exact retain_canonical h f stop
  | clear => exact empty_canonical
  | collect xs => exact collect_canonical xs
  | viewSet q cs x => cases hop
  | viewRemove q cs => cases hop

theorem Canonical.run {m : PMap w V} (h : m.Canonical) (ops : List (Op w V)) (hops : ∀ op ∈ ops, op.Canonical) :
    (run ops m).Canonical :=
  List.foldlRecOn (motive := Canonical) ops _ h fun _ hm op hop => apply_canonical hm op (hops op hop)

theorem run_canonical (ops : List (Op w V)) (hops : ∀ op ∈ ops, op.Canonical) :
    (run ops (empty : PMap w V)).Canonical := empty_canonical.run ops hops

end PMap
