import PT.Lemmas.WF
/-!
# Paths and value-only changes

`skel t` is `t` with the values forgotten.  An operation that only rewrites value slots
(`get_mut` writes, `remove_keep_tree`, writes through `&mut` of a traversal, `TrieViewMut::set` /
`remove`) satisfies `skel (op t) = skel t`, and everything that does not look at values — slots,
prefixes, links, well-formedness, which paths exist — is read off the skeleton (`*_of_skel`).
"Shape" in the `*_shape` theorems of C13 and C15 means this skeleton.  `Tree.shape` (Canon.lean) is another
notion: it forgets slots and host bits but keeps which nodes hold a value.
-/
namespace PT.C15
variable {w : Nat} {V : Type}

def skel : Tree w V → Tree w Unit
  | .nil => .nil
  | .node s p _ l r => .node s p none (skel l) (skel r)

end PT.C15

namespace Tree
variable {w : Nat} {V V' : Type}
open PT.C15

theorem sub_nil (t : Tree w V) : t.sub [] = t := by cases t <;> rfl

theorem sub_cons_node (s : Nat) (p : Pfx w) (v : Option V) (l r : Tree w V) (b : Bool) (bs : List Bool) :
    (node s p v l r).sub (b :: bs) = (child l r b).sub bs := rfl

theorem sub_nil_tree (bs : List Bool) : (nil : Tree w V).sub bs = nil := by cases bs <;> rfl

theorem sub_induction {motive : Tree w V → List Bool → Prop} (here : ∀ t, motive t [])
    (nil : ∀ b bs, motive nil (b :: bs))
    (step : ∀ s p v l r b bs, motive (child l r b) bs → motive (node s p v l r) (b :: bs)) :
    ∀ t pa, motive t pa
  | t, [] => here t
  | .nil, b :: bs => nil b bs
  | .node s p v l r, b :: bs => step s p v l r b bs (sub_induction here nil step _ bs)

theorem sub_append (t : Tree w V) (p1 p2 : List Bool) : t.sub (p1 ++ p2) = (t.sub p1).sub p2 := by
  induction t, p1 using sub_induction with
  | here t => rw [List.nil_append, sub_nil]
  | nil b bs => simp only [sub_nil_tree]
  | step s p v l r b bs ih => exact ih

theorem WF.sub {k : List Bool} {t : Tree w V} (h : WF k t) (pa : List Bool) :
    ∃ kk, k <+: kk ∧ WF kk (t.sub pa) := by
  induction t, pa using sub_induction generalizing k with
  | here t => exact ⟨k, List.prefix_refl _, by rwa [sub_nil]⟩
  | nil b bs => exact ⟨k, List.prefix_refl _, trivial⟩
  | step s p v l r b bs ih =>
    obtain ⟨kk, hk, hw⟩ := ih (WF.of_child h b)
    exact ⟨kk, h.1.trans ((List.prefix_append _ _).trans hk), hw⟩

theorem slots_sub_sublist (t : Tree w V) (pa : List Bool) : (t.sub pa).slots.Sublist t.slots := by
  induction t, pa using sub_induction with
  | here t => rw [sub_nil]; exact .refl _
  | nil b bs => exact .refl _
  | step s p v l r b bs ih =>
    refine ih.trans (.cons _ ?_)
    cases b
    · exact List.sublist_append_left _ _
    · exact List.sublist_append_right _ _

theorem WF.sub_prefix {k : List Bool} {t : Tree w V} (h : WF k t) {path : List Bool} {np : Pfx w}
    (hp : (t.sub path).pfx? = some np) : k <+: np.net := by
  obtain ⟨kk, hk, hw⟩ := h.sub path
  exact hk.trans (hw.pfx hp)

theorem isNil_of_pfx {t : Tree w V} {p : Pfx w} (h : t.pfx? = some p) : t.isNil = false := by
  cases t with
  | nil => cases h
  | node => rfl

theorem isNil_of_pv {t : Tree w V} {e : Pfx w × V} (h : t.pv = some e) : t.isNil = false := by
  cases t with
  | nil => cases h
  | node => rfl

theorem skel_slots (t : Tree w V) : (skel t).slots = t.slots := by
  induction t with
  | nil => rfl
  | node s p v l r ihl ihr => simp only [skel, slots, ihl, ihr]

theorem skel_wf {k : List Bool} {t : Tree w V} : WF k (skel t) ↔ WF k t := by
  induction t generalizing k with
  | nil => exact Iff.rfl
  | node s p v l r ihl ihr => simp only [skel, WF, ihl, ihr]

theorem skel_pfx (t : Tree w V) : (skel t).pfx? = t.pfx? := by cases t <;> rfl

theorem skel_isNil (t : Tree w V) : (skel t).isNil = t.isNil := by cases t <;> rfl

theorem skel_sub (t : Tree w V) (pa : List Bool) : skel (t.sub pa) = (skel t).sub pa := by
  induction t, pa using sub_induction with
  | here t => rw [sub_nil, sub_nil]
  | nil b bs => rfl
  | step s p v l r b bs ih => cases b <;> exact ih

section
variable {t : Tree w V} {t' : Tree w V'} (h : skel t = skel t')
include h

theorem WF.of_skel {k : List Bool} (hw : WF k t') : WF k t := skel_wf.1 (h ▸ skel_wf.2 hw)

theorem slots_of_skel : t.slots = t'.slots := by rw [← skel_slots t, h, skel_slots]

theorem isNil_of_skel : t.isNil = t'.isNil := by rw [← skel_isNil t, h, skel_isNil]

theorem sub_of_skel (pa : List Bool) : skel (t.sub pa) = skel (t'.sub pa) := by rw [skel_sub, h, skel_sub]

end

theorem skel_withValue (t : Tree w V) (nv : Option V) : skel (t.withValue nv) = skel t := by
  cases t <;> rfl

theorem skel_modifyAt {f : Tree w V → Tree w V} (hf : ∀ n, skel (f n) = skel n) (t : Tree w V)
    (pa : List Bool) : skel (t.modifyAt pa f) = skel t := by
  induction t, pa using sub_induction with
  | here t => cases t <;> exact hf _
  | nil b bs => rfl
  | step s p v l r b bs ih =>
    cases b
    · exact congrArg (Tree.node s p none · (skel r)) ih
    · exact congrArg (Tree.node s p none (skel l) ·) ih

theorem skel_takeValue (t : Tree w V) (q : Pfx w) : skel (takeValue t q) = skel t := by
  induction t with
  | nil => rfl
  | node s p v l r ihl ihr => unfold takeValue; split <;> simp only [skel, ihl, ihr]

theorem skel_modifyValue (t : Tree w V) (q : Pfx w) (f : V → V) : skel (modifyValue t q f) = skel t := by
  induction t with
  | nil => rfl
  | node s p v l r ihl ihr => unfold modifyValue; split <;> simp only [skel, ihl, ihr]

end Tree
