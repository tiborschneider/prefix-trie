import PT.Lemmas.Views
import PT.Lemmas.Inv
/-!
# `TrieViewMut::set` / `TrieViewMut::remove`: the value slot of the view's node is replaced

`Tree.setAt` is the write on trees, `PMap.writeAt` the write on maps (entry counter adjusted);
`viewSet` / `viewRemove` are `writeAt` with `some x` / `none`.  `setAt_none_entries`, `setAt_some_mem` and `setAt_card` say what a
write does to the entries and their number; everything structural is kept because the skeleton is.
-/
namespace Tree
variable {w : Nat} {V : Type}
open PT.C15

/-- the tree after the value slot of the node at `path` became `nv` (`TrieViewMut::set`: `some x`;
`TrieViewMut::remove`: `none`) -/
def setAt (t : Tree w V) (path : List Bool) (nv : Option V) : Tree w V :=
  t.modifyAt path (fun t => t.withValue nv)

theorem setAt_nil (t : Tree w V) (nv : Option V) : setAt t [] nv = t.withValue nv := by
  unfold setAt; cases t <;> rfl

theorem setAt_nil_tree (path : List Bool) (nv : Option V) : setAt (nil : Tree w V) path nv = nil := by
  unfold setAt; cases path <;> rfl

theorem setAt_cons (s : Nat) (p : Pfx w) (v : Option V) (l r : Tree w V) (c : Bool) (cs : List Bool) (nv : Option V) :
    setAt (node s p v l r) (c :: cs) nv = setChild s p v l r c (setAt (child l r c) cs nv) := by
  unfold setAt setChild
  cases c <;> rfl

theorem sub_setChild (s : Nat) (p : Pfx w) (v : Option V) (l r x : Tree w V) (c d : Bool) (ds : List Bool) :
    (setChild s p v l r c x).sub (d :: ds) = (if d = c then x else child l r d).sub ds := by
  cases c <;> cases d <;> rfl

theorem skel_setAt (t : Tree w V) (path : List Bool) (nv : Option V) : skel (setAt t path nv) = skel t :=
  skel_modifyAt (fun n => skel_withValue n nv) t path

theorem setAt_isNil (t : Tree w V) (path : List Bool) (nv : Option V) : (setAt t path nv).isNil = t.isNil :=
  isNil_of_skel (skel_setAt t path nv)

theorem setAt_pfx (t : Tree w V) (path : List Bool) (nv : Option V) : (setAt t path nv).pfx? = t.pfx? :=
  by rw [← skel_pfx, skel_setAt, skel_pfx]

theorem setAt_slots (t : Tree w V) (path : List Bool) (nv : Option V) : (setAt t path nv).slots = t.slots :=
  slots_of_skel (skel_setAt t path nv)

/- A write at a path is an edit below `setChild`, like the writes by key: the frame lemmas of
`Entries.lean` (`entries_setChild_filter`, `mem_setChild_insert`) carry it up.  Which node is written is
said through the observers of `t.sub path` (`isNil`, `pfx?`, `value?`); it is the one with key `np`. -/

theorem setAt_none_entries {k : List Bool} {t : Tree w V} (h : WF k t) {path : List Bool} {np : Pfx w}
    (hp : (t.sub path).pfx? = some np) :
    (setAt t path none).entries = t.entries.filter (fun e => !e.1.eqv np) := by
  induction t, path using sub_induction generalizing k with
  | here t =>
    rw [sub_nil] at hp
    cases t with
    | nil => cases hp
    | node s p ov l r => cases hp; exact (filter_not_node_own h.eqv_children (own_eqv rfl)).symm
  | nil c cs => cases hp
  | step s p v l r c cs ih =>
    obtain ⟨hown, hoth⟩ := h.eqv_side (WF.sub_prefix (h.of_child c) hp)
    rw [setAt_cons]; exact entries_setChild_filter hown hoth (ih (h.of_child c) hp)

theorem setAt_some_mem {k : List Bool} {t : Tree w V} (h : WF k t) {path : List Bool} {np : Pfx w}
    (hp : (t.sub path).pfx? = some np) (x : V) (e : Pfx w × V) :
    e ∈ (setAt t path (some x)).entries ↔ e = (np, x) ∨ e ∈ t.entries.filter (fun e => !e.1.eqv np) := by
  induction t, path using sub_induction generalizing k e with
  | here t =>
    rw [sub_nil] at hp
    cases t with
    | nil => cases hp
    | node s p ov l r =>
      cases hp
      rw [filter_not_node_own h.eqv_children (own_eqv rfl), setAt_nil, withValue, mem_entries_node,
        List.mem_append]
      exact or_congr_left List.mem_singleton
  | nil c cs => cases hp
  | step s p v l r c cs ih =>
    obtain ⟨hown, hoth⟩ := h.eqv_side (WF.sub_prefix (h.of_child c) hp)
    rw [setAt_cons]; exact mem_setChild_insert hown hoth (ih (h.of_child c) hp) e

theorem setAt_card {t : Tree w V} {path : List Bool} (hn : (t.sub path).isNil = false) (nv : Option V) :
    (setAt t path nv).card + (if (t.sub path).value?.isSome then 1 else 0) =
      t.card + (if nv.isSome then 1 else 0) := by
  induction t, path using sub_induction with
  | here t =>
    rw [sub_nil] at hn ⊢
    cases t with
    | nil => cases hn
    | node s p ov l r =>
      rw [setAt_nil, withValue, card_node, card_node, value?]
      omega
  | nil c cs => cases hn
  | step s' p v l' r' c cs ih =>
    have := ih hn
    have := card_setChild s' p v l' r' (setAt (child l' r' c) cs nv) c
    rw [setAt_cons, sub_cons_node]
    omega

end Tree

namespace PMap
variable {w : Nat} {V : Type}
open Tree View

theorem setAt_treeWF {m : PMap w V} (h : m.TreeWF) (path : List Bool) (nv : Option V) (f a c : _) :
    (⟨setAt m.root path nv, f, a, c⟩ : PMap w V).TreeWF :=
  h.of_skel (skel_setAt ..) f a c

/-- the entry counter after the value slot of a node changed from `old` to `nv` -/
def bumpCount (c : Nat) (old nv : Option V) : Nat :=
  match old, nv with
  | some _, none => c - 1
  | none, some _ => c + 1
  | _, _ => c

/-- `TrieViewMut::set` (`nv = some x`) / `remove` (`nv = none`) on the node at path `p` -/
def writeAt (m : PMap w V) (p : List Bool) (nv : Option V) : PMap w V :=
  ⟨setAt m.root p nv, m.free, m.alloc, bumpCount m.count (m.root.sub p).value? nv⟩

theorem viewSet_virtual {m : PMap w V} {v : View w} {q : Pfx w} (hv : v.virt = some q) (x : V) :
    (m.viewSet v x).1 = m := by unfold viewSet; rw [hv]

theorem viewRemove_virtual {m : PMap w V} {v : View w} {q : Pfx w} (hv : v.virt = some q) :
    (m.viewRemove v).1 = m := by unfold viewRemove; rw [hv]

theorem viewSet_eq_writeAt {m : PMap w V} {v : View w} (hv : v.virt = none) (x : V) :
    (m.viewSet v x).1 = m.writeAt v.path (some x) := by
  unfold viewSet writeAt setAt View.node bumpCount
  rw [hv]
  cases (m.root.sub v.path).value? <;> rfl

theorem viewRemove_eq_writeAt {m : PMap w V} {v : View w} (hv : v.virt = none) :
    (m.viewRemove v).1 = m.writeAt v.path none := by
  unfold viewRemove writeAt setAt View.node bumpCount
  rw [hv]
  cases (m.root.sub v.path).value? <;> rfl

theorem bumpCount_eq {c c' : Nat} {old nv : Option V}
    (h : c' + (if old.isSome then 1 else 0) = c + (if nv.isSome then 1 else 0)) : bumpCount c old nv = c' := by
  cases old <;> cases nv
  · exact h.symm
  · exact h.symm
  · exact (show c' + 1 = c from h) ▸ rfl
  · exact (Nat.add_right_cancel h).symm

theorem writeAt_inv {m : PMap w V} (h : m.Inv) {p : List Bool} (hp : (m.root.sub p).isNil = false) (nv : Option V) :
    (m.writeAt p nv).Inv :=
  h.of_skel (skel_setAt m.root p nv) (bumpCount_eq (h.count ▸ setAt_card hp nv))

theorem viewSet_treeWF {m : PMap w V} (h : m.TreeWF) (v : View w) (x : V) : (m.viewSet v x).1.TreeWF := by
  cases hv : v.virt with
  | some q => rw [viewSet_virtual hv]; exact h
  | none => rw [viewSet_eq_writeAt hv]; exact setAt_treeWF h ..

theorem viewSet_inv {m : PMap w V} (h : m.Inv) {v : View w} (hg : Good m.root v) (x : V) :
    (m.viewSet v x).1.Inv := by
  cases hv : v.virt with
  | some _ => rw [viewSet_virtual hv]; exact h
  | none => rw [viewSet_eq_writeAt hv]; exact writeAt_inv h hg.node_isNil _

theorem viewRemove_inv {m : PMap w V} (h : m.Inv) {v : View w} (hg : Good m.root v) :
    (m.viewRemove v).1.Inv := by
  cases hv : v.virt with
  | some _ => rw [viewRemove_virtual hv]; exact h
  | none => rw [viewRemove_eq_writeAt hv]; exact writeAt_inv h hg.node_isNil _

theorem viewSet_mem {m : PMap w V} (h : m.TreeWF) {v : View w} (hv : v.virt = none) {np : Pfx w}
    (hp : (v.node m.root).pfx? = some np) (x : V) (e : Pfx w × V) :
    e ∈ (m.viewSet v x).1.entries ↔ (e ∈ m.entries ∧ e.1.net ≠ np.net) ∨ e = (np, x) := by
  rw [viewSet_eq_writeAt hv]
  exact (setAt_some_mem h.wf hp x e).trans (or_comm.trans (or_congr_left filter_key_iff))

theorem viewRemove_mem {m : PMap w V} (h : m.TreeWF) {v : View w} (hv : v.virt = none) {np : Pfx w}
    (hp : (v.node m.root).pfx? = some np) (e : Pfx w × V) :
    e ∈ (m.viewRemove v).1.entries ↔ e ∈ m.entries ∧ e.1.net ≠ np.net := by
  rw [viewRemove_eq_writeAt hv]
  show e ∈ (setAt m.root v.path none).entries ↔ _
  rw [setAt_none_entries h.wf hp]; exact filter_key_iff

/-- `view_mut_at(q)` followed by `left()` / `right()` steps -/
def viewAtNav (m : PMap w V) (q : Pfx w) (cs : List Bool) : Option (View w) :=
  match (View.root : View w).find m.root q with
  | some v => v.nav m.root cs
  | none => none

theorem TreeWF.root_good {m : PMap w V} (h : m.TreeWF) : Good m.root (View.root : View w) := by
  obtain ⟨p, x, l, r, hr, _⟩ := h.root
  exact View.root_good hr h.wf

theorem viewAtNav_good {m : PMap w V} (h : m.TreeWF) {q : Pfx w} {cs : List Bool} {v : View w}
    (hv : m.viewAtNav q cs = some v) : Good m.root v := by
  unfold viewAtNav at hv
  split at hv
  · next v0 hv0 => exact View.nav_good ((View.find_spec h.root_good q).2 v0 hv0).1 hv
  · cases hv

/-- `view_mut_at(q)`, navigation, then `set(x)`; nothing happens if the view does not exist -/
def viewSetAt (m : PMap w V) (q : Pfx w) (cs : List Bool) (x : V) : PMap w V :=
  match m.viewAtNav q cs with
  | some v => (m.viewSet v x).1
  | none => m

/-- `view_mut_at(q)`, navigation, then `remove()` -/
def viewRemoveAt (m : PMap w V) (q : Pfx w) (cs : List Bool) : PMap w V :=
  match m.viewAtNav q cs with
  | some v => (m.viewRemove v).1
  | none => m

theorem viewSetAt_inv {m : PMap w V} (h : m.Inv) (q : Pfx w) (cs : List Bool) (x : V) : (m.viewSetAt q cs x).Inv := by
  unfold viewSetAt
  split
  · next v hv => exact viewSet_inv h (viewAtNav_good h.tree hv) x
  · exact h

theorem viewRemoveAt_inv {m : PMap w V} (h : m.Inv) (q : Pfx w) (cs : List Bool) : (m.viewRemoveAt q cs).Inv := by
  unfold viewRemoveAt
  split
  · next v hv => exact viewRemove_inv h (viewAtNav_good h.tree hv)
  · exact h

end PMap
