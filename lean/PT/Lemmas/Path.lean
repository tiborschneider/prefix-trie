import PT.Lemmas.Children
import PT.Lemmas.Shape
import PT.View
/-!
# The path-returning searches of views, read through `sub`

`findGo`, `findExactGo` and `findLpmGo` return the *path* of the node that `childrenStart`,
`getKeyValue` and `getLpm` return directly; each is related to its twin by one induction that needs no
well-formedness, so that the specifications of the twins carry over.
-/
namespace Tree
variable {w : Nat} {V : Type}

theorem findGo_node (s : Nat) (p : Pfx w) (v : Option V) (l r : Tree w V) (q : Pfx w) :
    findGo (node s p v l r) q = (match dirIns p l r q with
      | .reached => some (none, [])
      | .enter b => (findGo (child l r b) q).map (fun x => (x.1, b :: x.2))
      | .newChild b _ => some (some q, [b])
      | _ => none) := by
  rw [findGo]
  cases dirIns p l r q with
  | enter b => cases b <;> rfl
  | _ => rfl

theorem findGo_childrenStart (t : Tree w V) (q : Pfx w) :
    match findGo t q with
    | none => childrenStart t q = nil
    | some (_, pa) => t.sub pa = childrenStart t q := by
  induction t using child_induction with
  | nil => rfl
  | node s p v l r ih =>
    rw [findGo_node, childrenStart_node]
    cases dirIns p l r q with
    | enter b =>
      have := ih b
      dsimp only
      revert this
      rcases findGo (child l r b) q with _ | ⟨vt, pa⟩ <;> exact id
    | newChild b _ => exact sub_nil _
    | _ => rfl

theorem findGo_none {t : Tree w V} {q : Pfx w} (h : findGo t q = none) : childrenStart t q = nil := by
  have := findGo_childrenStart t q
  rwa [h] at this

theorem findGo_some {t : Tree w V} {q : Pfx w} {vt : Option (Pfx w)} {pa : List Bool}
    (h : findGo t q = some (vt, pa)) : t.sub pa = childrenStart t q := by
  have := findGo_childrenStart t q
  rwa [h] at this

theorem findGo_pos {t : Tree w V} {q : Pfx w} {vt : Option (Pfx w)} {pa : List Bool}
    (h : findGo t q = some (vt, pa)) :
    ∃ np, (t.sub pa).pfx? = some np ∧
      ((vt = none ∧ np.net = q.net) ∨ (vt = some q ∧ q.net <+: np.net ∧ q.net ≠ np.net)) := by
  induction t using child_induction generalizing pa with
  | nil => cases h
  | node s p v l r ih =>
    rw [findGo_node] at h
    match dirCase p l r q with
    | .reached (hi := hi) (hpq := hpq) .. => rw [hi] at h; cases h; exact ⟨p, rfl, .inl ⟨rfl, hpq⟩⟩
    | .enter (b := b) (hi := hi) .. =>
      rw [hi] at h
      obtain ⟨⟨vt', pa'⟩, hf, h⟩ := Option.map_eq_some_iff.1 h
      cases h
      exact ih b hf
    | .newChild (cp := cp) (hi := hi) (hch := hch) (h1 := h1) (h2 := h2) .. =>
      rw [hi] at h; cases h
      exact ⟨cp, by rw [sub_cons_node, hch, sub_nil]; rfl, .inr ⟨rfl, h2, fun e => h1 (e ▸ List.prefix_refl _)⟩⟩
    | .newLeaf (hi := hi) .. | .newBranch (hi := hi) .. => rw [hi] at h; cases h

theorem findGo_incomparable {k : List Bool} {s : Nat} {p : Pfx w} {v : Option V} {l r : Tree w V}
    (hwf : WF k (node s p v l r)) {q : Pfx w} (h1 : ¬ p.net <+: q.net) (h2 : ¬ q.net <+: p.net) :
    findGo (node s p v l r) q = none := by
  -- wherever `find` stops lies under `p`, and at or below `q`
  cases hf : findGo (node s p v l r) q with
  | none => rfl
  | some x =>
    obtain ⟨np, hs, hpos⟩ := findGo_pos (vt := x.1) (pa := x.2) hf
    have hp : p.net <+: np.net := WF.sub_prefix (WF.self hwf) hs
    rcases hpos with ⟨_, hk⟩ | ⟨_, hq, _⟩
    · exact absurd (hk ▸ hp) h1
    · exact ((List.prefix_or_prefix_of_prefix hp hq).elim h1 h2).elim

theorem findExactGo_node (s : Nat) (p : Pfx w) (v : Option V) (l r : Tree w V) (q : Pfx w) :
    findExactGo (node s p v l r) q = (match getDir p l r q with
      | .reached => if v.isSome then some [] else none
      | .enter b => (findExactGo (child l r b) q).map (fun x => b :: x)
      | .missing => none) := by
  rw [findExactGo]
  cases getDir p l r q with
  | enter b => cases b <;> rfl
  | _ => rfl

theorem findExactGo_eq (t : Tree w V) (q : Pfx w) :
    (findExactGo t q).map (fun pa => (t.sub pa).pv) = (getKeyValue t q).map some := by
  induction t using child_induction with
  | nil => rfl
  | node s p v l r ih =>
    rw [findExactGo_node, getKeyValue_node]
    cases getDir p l r q with
    | reached => cases v <;> rfl
    | missing => rfl
    | enter b => rw [← ih b, Option.map_map]; rfl

theorem findLpmGo_node (s : Nat) (p : Pfx w) (v : Option V) (l r : Tree w V) (q : Pfx w) (here : List Bool)
    (best : Option (List Bool)) :
    findLpmGo (node s p v l r) q here best = (match getDir p l r q with
      | .enter b => findLpmGo (child l r b) q (here ++ [b]) (if v.isSome then some here else best)
      | _ => if v.isSome then some here else best) := by
  rw [findLpmGo]
  cases getDir p l r q with
  | enter b => cases b <;> rfl
  | _ => rfl

/-- `t0` is the tree the search started in and `here` the path walked so far, so that `t0.sub here = t`
is the subtree the loop stands at (`hsub`); `best` is the path of the best match so far and `bestpv` the
entry `getLpm` carries for it (`hag`: they name the same node) -/
theorem findLpmGo_eq {t0 t : Tree w V} (q : Pfx w) {here : List Bool} (hsub : t0.sub here = t)
    {best : Option (List Bool)} {bestpv : Option (Pfx w × V)}
    (hag : best.map (fun pa => (t0.sub pa).pv) = bestpv.map some) :
    (findLpmGo t q here best).map (fun pa => (t0.sub pa).pv) = (getLpm t q bestpv).map some := by
  induction t using child_induction generalizing here best bestpv with
  | nil => exact hag
  | node s p v l r ih =>
    have hstep : (if v.isSome then some here else best).map (fun pa => (t0.sub pa).pv) =
        (pvOr p v bestpv).map some := by
      cases v with
      | none => exact hag
      | some x => simp only [Option.isSome_some, ite_true, Option.map_some, hsub]; rfl
    rw [findLpmGo_node, getLpm_node]
    cases getDir p l r q with
    | enter b => exact ih b (here := here ++ [b]) (by rw [sub_append, hsub]; rfl) hstep
    | _ => exact hstep

end Tree
