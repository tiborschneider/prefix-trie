import PT.Lemmas.Insert
import PT.Lemmas.Remove
import PT.Lemmas.Shape
/-!
# Counting entries and slots through the mutators (for the entry counter and the free list)

Every mutator rebuilds the path back up with `setChild`; the two *frame* lemmas
`card_setChild` and `perm_setChild` say what that does to the entry count and to the slot multiset,
so that each induction below only has to look at the node where the descent ends.
-/
namespace Tree
variable {w : Nat} {V : Type}
open Pfx

/-- what `len()` must equal: the number of valued nodes -/
def card (t : Tree w V) : Nat := t.entries.length

theorem card_node (s : Nat) (p : Pfx w) (v : Option V) (l r : Tree w V) :
    (node s p v l r).card = (if v.isSome then 1 else 0) + l.card + r.card := by
  unfold card; rw [entries_node]; cases v <;> simp [own] <;> omega

@[simp] theorem card_nil : (nil : Tree w V).card = 0 := rfl

theorem card_setChild (s : Nat) (p : Pfx w) (v : Option V) (l r c : Tree w V) (b : Bool) :
    (setChild s p v l r b c).card + (child l r b).card = (node s p v l r).card + c.card := by
  cases b <;> simp [card_node] <;> omega

theorem card_mkChild (s : Nat) (q : Pfx w) (x : V) (c : Tree w V) (cr : Bool) :
    (mkChild s q x c cr).card = c.card + 1 := by
  cases cr <;> simp [mkChild, card_node] <;> omega

theorem card_mkBranch (sb : Nat) (bp : Pfx w) (sn : Nat) (q : Pfx w) (x : V) (c : Tree w V) (pr : Bool) :
    (mkBranch sb bp sn q x c pr).card = c.card + 1 := by
  cases pr <;> simp [mkBranch, leaf, card_node] <;> omega

theorem card_insert (t : Tree w V) (hn : t ≠ nil) (q : Pfx w) (x : V) (s1 s2 : Nat) :
    (insert t q x s1 s2).t.card = t.card + (if (insert t q x s1 s2).old.isSome then 0 else 1) := by
  induction t using child_induction with
  | nil => exact absurd rfl hn
  | node s p v l r ih =>
    have frame : ∀ b c d, c.card = (child l r b).card + d →
        (setChild s p v l r b c).card = (node s p v l r).card + d := fun b c d hc => by
      have := card_setChild s p v l r c b; omega
    rw [insert_node]
    match dirCase p l r q with
    | .reached (hi := hi) .. =>
      simp only [hi, card_node]
      cases v
      · show 1 + l.card + r.card = 0 + l.card + r.card + 1; omega
      · rfl
    | .enter (b := b) (hi := hi) (hch := hch) .. =>
      rw [hi]; exact frame b _ _ (ih b (by rw [hch]; exact fun h => nomatch h))
    | .newLeaf (b := b) (hi := hi) (hch := hch) .. => rw [hi]; exact frame b _ 1 (by rw [hch]; rfl)
    | .newChild (b := b) (hi := hi) .. => rw [hi]; exact frame b _ 1 (card_mkChild ..)
    | .newBranch (b := b) (hi := hi) .. => rw [hi]; exact frame b _ 1 (card_mkBranch ..)

theorem card_takeValue (t : Tree w V) (q : Pfx w) :
    (takeValue t q).card + (if (get t q).isSome then 1 else 0) = t.card := by
  induction t using child_induction with
  | nil => rfl
  | node s p v l r ih =>
    rw [get, findNode_node, takeValue_node]
    cases getDir p l r q with
    | reached =>
      simp only [card_node]
      cases v
      · rfl
      · show 0 + l.card + r.card + 1 = 1 + l.card + r.card; omega
    | missing => rfl
    | enter b =>
      have h1 := card_setChild s p v l r (takeValue (child l r b) q) b
      have h2 := ih b
      rw [get] at h2; simp only at h2 ⊢; omega

theorem card_remove {k : List Bool} {t : Tree w V} (hwf : WF k t) (q : Pfx w) (hp : Bool) :
    (remove t q hp).t.card + (if (remove t q hp).val.isSome then 1 else 0) = t.card := by
  -- `remove` and `takeValue` leave the same entries and return the same value: count through `takeValue`
  rw [remove_val, ← card_takeValue t q, card, card, remove_entries hwf, takeValue_entries hwf]

theorem card_modifyValue (t : Tree w V) (q : Pfx w) (f : V → V) : (modifyValue t q f).card = t.card := by
  induction t using child_induction with
  | nil => rfl
  | node s p v l r ih =>
    rw [modifyValue_node]
    cases getDir p l r q with
    | reached => simp only [card_node]; cases v <;> rfl
    | missing => rfl
    | enter b =>
      have h1 := card_setChild s p v l r (modifyValue (child l r b) q f) b
      have h2 := ih b
      simp only; omega

theorem perm_setChild {A B : List Nat} {c : Tree w V} (s : Nat) (p : Pfx w) (v : Option V) (l r : Tree w V)
    (b : Bool) (h : (A ++ c.slots).Perm (B ++ (child l r b).slots)) :
    (A ++ (setChild s p v l r b c).slots).Perm (B ++ (node s p v l r).slots) := by
  rw [List.perm_iff_count] at h ⊢
  intro a
  have := h a
  cases b <;> simp only [child_true, child_false, setChild_true, setChild_false, slots, List.count_append,
    List.count_cons] at this ⊢ <;> omega

/-- which of the two offered slots are taken: none (`Reached`), `s1` (new leaf / new child), or `s1` for
the branch node and then `s2` for the new leaf — the order of the two `new_node` calls -/
theorem slots_insert (t : Tree w V) (q : Pfx w) (x : V) (s1 s2 : Nat) :
    (insert t q x s1 s2).t.slots.Perm ([s1, s2].take (insert t q x s1 s2).used ++ t.slots) := by
  induction t using child_induction with
  | nil => exact .refl _
  | node s p v l r ih =>
    rw [insert_node]
    match dirCase p l r q with
    | .reached (hi := hi) .. => rw [hi]; exact .refl _
    | .enter (b := b) (hi := hi) .. => rw [hi]; exact perm_setChild (A := []) s p v l r b (ih b)
    | .newLeaf (b := b) (hi := hi) (hch := hch) .. =>
      rw [hi]; exact perm_setChild (A := []) s p v l r b (by rw [hch]; exact .refl _)
    | .newChild (b := b) (cp := cp) (hi := hi) .. =>
      rw [hi]
      refine perm_setChild (A := []) s p v l r b ?_
      generalize toRight q cp = cr
      cases cr
      · show (s1 :: ((child l r b).slots ++ [])).Perm _; rw [List.append_nil]; exact .refl _
      · exact .refl _
    | .newBranch (b := b) (cp := cp) (hi := hi) .. =>
      rw [hi]
      refine perm_setChild (A := []) s p v l r b ?_
      generalize toRight (q.lcp cp) q = pr
      cases pr
      · exact .refl _
      · exact .cons _ (List.perm_append_singleton ..)

theorem used_le_two (t : Tree w V) (q : Pfx w) (x : V) (s1 s2 : Nat) : (insert t q x s1 s2).used ≤ 2 := by
  induction t using child_induction with
  | nil => exact Nat.zero_le _
  | node s p v l r ih =>
    rw [insert_node]
    cases dirIns p l r q with
    | enter b => exact ih b
    | _ => simp

theorem slots_remove (t : Tree w V) (q : Pfx w) (hp : Bool) :
    ((remove t q hp).freed ++ (remove t q hp).t.slots).Perm t.slots := by
  induction t using child_induction generalizing hp with
  | nil => exact .refl _
  | node s p v l r ih =>
    rw [remove_node]
    cases getDir p l r q with
    | reached =>
      rcases removeHere_cases s p v l r hp with h | ⟨c, hc, h⟩ <;> simp only [h]
      · exact .refl _
      · cases c
        · rw [show r = nil from hc]; show (s :: l.slots).Perm (s :: (l.slots ++ [])); rw [List.append_nil]
        · rw [show l = nil from hc]; exact .refl _
    | missing => exact .refl _
    | enter b =>
      rcases afterChild_cases s p v l r b hp (remove (child l r b) q true) with ⟨hleaf, _, _, h⟩ | ⟨_, h⟩ <;>
        simp only [h]
      · have := ih b true
        rw [remove_leaf hleaf] at this
        have := perm_setChild (B := []) s p v l r b this
        cases b <;> simpa [slots] using this
      · exact perm_setChild (B := []) s p v l r b (ih b true)

theorem slots_takeValue (t : Tree w V) (q : Pfx w) : (takeValue t q).slots = t.slots :=
  slots_of_skel (skel_takeValue t q)

theorem slots_modifyValue (t : Tree w V) (q : Pfx w) (f : V → V) : (modifyValue t q f).slots = t.slots :=
  slots_of_skel (skel_modifyValue t q f)

theorem freeOrder_perm (t : Tree w V) : t.freeOrder.Perm t.slots := by
  induction t with
  | nil => exact .refl _
  | node s p v l r ihl ihr => exact .cons _ (List.perm_append_comm.trans (ihl.append ihr))

end Tree
