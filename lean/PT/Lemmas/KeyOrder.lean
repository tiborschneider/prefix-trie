import PT.Spec
/-!
# Keys as bit lists: the two sides of a key, and the key order `Spec.keyLt`

Keys that continue `k` by different bits are incomparable (`List.incomparable_of_sides`, `other_side`).
`keyLt` is a strict total order on keys: a proper prefix first, the 0-branch before the 1-branch (`keyLt_of_proper_prefix`,
`keyLt_of_sides`), irreflexive, transitive, trichotomous; a list strictly sorted by it is determined by its
members (`Spec.eq_of_sorted`).  No trees here.

At the end of namespace `List` stands what `Pairwise` gives for any sorted list (`Pairwise.eq_of_key_eq`,
`length_le_of_bounded`, `head?_rel`, `getLast?_rel`): nothing about keys, but every module that needs it is above.
-/
namespace List
theorem not_prefix_of_sides {b a c : List Bool} {x y : Bool} (hxy : x ≠ y)
    (ha : b ++ [x] <+: a) (hc : b ++ [y] <+: c) : ¬ a <+: c := by
  intro hac
  -- `b ++ [x]` and `b ++ [y]` are prefixes of `c` of the same length, hence equal
  have e : b ++ [x] = b ++ [y] :=
    (List.prefix_of_prefix_length_le (ha.trans hac) hc (by simp)).eq_of_length (by simp)
  exact hxy (List.singleton_inj.1 (List.append_cancel_left e))

theorem ne_of_sides {b a c : List Bool} {x y : Bool} (hxy : x ≠ y)
    (ha : b ++ [x] <+: a) (hc : b ++ [y] <+: c) : a ≠ c := by
  intro h
  exact not_prefix_of_sides hxy ha hc (h ▸ List.prefix_refl _)

theorem not_prefix_of_snoc {b a : List Bool} {x : Bool} (ha : b ++ [x] <+: a) : ¬ a <+: b := fun h =>
  absurd (ha.trans h).length_le (by rw [List.length_append]; exact Nat.not_succ_le_self _)

theorem ne_of_snoc_prefix {b a : List Bool} {x : Bool} (ha : b ++ [x] <+: a) : a ≠ b := by
  intro h
  exact not_prefix_of_snoc ha (h ▸ List.prefix_refl _)

theorem incomparable_of_sides {k a c : List Bool} {x : Bool} (ha : k ++ [x] <+: a) (hc : k ++ [!x] <+: c) :
    ¬ a <+: c ∧ ¬ c <+: a :=
  ⟨not_prefix_of_sides (by cases x <;> simp) ha hc, not_prefix_of_sides (by cases x <;> simp) hc ha⟩

theorem other_side {k c : List Bool} {b : Bool} (h : k ++ [b] <+: c) :
    ¬ k ++ [!b] <+: c ∧ ¬ c <+: k ++ [!b] :=
  (incomparable_of_sides h (List.prefix_refl _)).symm

theorem not_snoc_prefix (k : List Bool) (x : Bool) : ¬ k ++ [x] <+: k :=
  not_prefix_of_snoc (List.prefix_refl _)

theorem eq_of_sorted_of_mem_iff {α : Type} {lt : α → α → Prop}
    (irrefl : ∀ a, ¬ lt a a) (trans : ∀ a b c, lt a b → lt b c → lt a c) :
    ∀ (l1 l2 : List α), l1.Pairwise lt → l2.Pairwise lt → (∀ x, x ∈ l1 ↔ x ∈ l2) → l1 = l2 := by
  intro l1 l2 h1 h2 h
  have nd {l : List α} (hl : l.Pairwise lt) : l.Nodup :=
    hl.imp fun {a b} (hab : lt a b) (e : a = b) => irrefl b (e ▸ hab)
  exact Perm.eq_of_pairwise (fun a b _ _ hab hba => absurd (trans _ _ _ hab hba) (irrefl a)) h1 h2
    ((perm_ext_iff_of_nodup (nd h1) (nd h2)).2 h)

theorem exists_first_diff : ∀ (a b : List Bool), ¬ a <+: b → ¬ b <+: a →
    ∃ c x y ra rb, a = c ++ x :: ra ∧ b = c ++ y :: rb ∧ x ≠ y := by
  intro a
  induction a with
  | nil => intro b h; exact absurd (List.nil_prefix) h
  | cons x xs ih =>
    intro b h1 h2
    cases b with
    | nil => exact absurd (List.nil_prefix) h2
    | cons y ys =>
      by_cases hxy : x = y
      · subst hxy
        have h1' : ¬ xs <+: ys := fun h => h1 ((List.prefix_cons_inj x).2 h)
        have h2' : ¬ ys <+: xs := fun h => h2 ((List.prefix_cons_inj x).2 h)
        obtain ⟨c, x', y', ra, rb, e1, e2, hne⟩ := ih ys h1' h2'
        exact ⟨x :: c, x', y', ra, rb, by simp [e1], by simp [e2], hne⟩
      · exact ⟨[], x, y, xs, ys, rfl, rfl, hxy⟩

theorem Pairwise.eq_of_key_eq {α β : Type} {R : β → β → Prop} (irrefl : ∀ b, ¬ R b b) {f : α → β} {l : List α}
    (h : l.Pairwise (fun a b => R (f a) (f b))) {x y : α} (hx : x ∈ l) (hy : y ∈ l) (hk : f x = f y) :
    x = y :=
  Pairwise.forall_of_forall_of_flip (R := fun a b => f a = f b → a = b) (fun _ _ _ => rfl)
    (h.imp fun {a b} (hab : R (f a) (f b)) (e : f a = f b) => absurd (e ▸ hab) (irrefl (f b)))
    (h.imp fun {a b} (hab : R (f a) (f b)) (e : f b = f a) => absurd (e ▸ hab) (irrefl (f a))) hx hy hk

theorem Pairwise.length_le_of_bounded {α : Type} (f : α → Nat) (n : Nat) :
    ∀ (l : List α) (k : Nat), l.Pairwise (fun a b => f a < f b) → (∀ x ∈ l, k ≤ f x ∧ f x ≤ n) →
      l.length ≤ n + 1 - k
  | [], k, _, _ => Nat.zero_le _
  | x :: xs, k, hp, hb => by
    rw [List.pairwise_cons] at hp
    have hx := hb x mem_cons_self
    have ih := length_le_of_bounded f n xs (f x + 1) hp.2 fun y hy =>
      ⟨hp.1 y hy, (hb y (mem_cons_of_mem _ hy)).2⟩
    rw [length_cons]; omega

theorem Pairwise.head?_rel {α : Type} {R : α → α → Prop} {xs : List α} (h : xs.Pairwise R)
    {e : α} (he : xs.head? = some e) : ∀ e' ∈ xs, e' = e ∨ R e e' := by
  cases xs with
  | nil => cases he
  | cons x xs =>
    cases he
    exact fun e' hm => (List.mem_cons.1 hm).imp_right ((List.pairwise_cons.1 h).1 e')

theorem Pairwise.getLast?_rel {α : Type} {R : α → α → Prop} {xs : List α} (h : xs.Pairwise R)
    {e : α} (he : xs.getLast? = some e) : ∀ e' ∈ xs, e' = e ∨ R e' e := by
  obtain ⟨ys, rfl⟩ := List.getLast?_eq_some_iff.1 he
  exact fun e' hm => (List.mem_append.1 hm).symm.imp List.mem_singleton.1
    fun hm => (List.pairwise_append.1 h).2.2 e' hm e (List.mem_singleton_self e)

end List

namespace Spec

theorem keyLt_cons (x y : Bool) (xs ys : Key) :
    keyLt (x :: xs) (y :: ys) = true ↔ x < y ∨ (x = y ∧ keyLt xs ys = true) := by
  cases x <;> cases y <;> simp [keyLt] <;> decide

theorem keyLt_nil_cons (c : Bool) (cs : Key) : keyLt [] (c :: cs) = true := rfl

theorem keyLt_append_left (k x y : Key) : keyLt (k ++ x) (k ++ y) = keyLt x y := by
  induction k with
  | nil => rfl
  | cons a k ih => simp [keyLt, ih]

theorem keyLt_of_proper_prefix {a b : Key} (h : a <+: b) (hne : a ≠ b) : keyLt a b = true := by
  obtain ⟨t, rfl⟩ := h
  cases t with
  | nil => simp at hne
  | cons c cs =>
    have := keyLt_append_left a [] (c :: cs)
    simp only [List.append_nil] at this
    rw [this]; rfl

theorem keyLt_of_snoc_prefix {k y : Key} {c : Bool} (h : k ++ [c] <+: y) : keyLt k y = true :=
  keyLt_of_proper_prefix ((List.prefix_append _ _).trans h) (List.ne_of_snoc_prefix h).symm

theorem keyLt_of_sides {k a b : Key} (ha : k ++ [false] <+: a) (hb : k ++ [true] <+: b) : keyLt a b = true := by
  obtain ⟨ta, rfl⟩ := ha
  obtain ⟨tb, rfl⟩ := hb
  simp only [List.append_assoc, keyLt_append_left]
  rfl

theorem keyLt_eq_of_roots {ka kb x y : List Bool} (h1 : ¬ ka <+: kb) (h2 : ¬ kb <+: ka)
    (hx : ka <+: x) (hy : kb <+: y) : keyLt x y = keyLt ka kb := by
  obtain ⟨c, a, b, ra, rb, ea, eb, hne⟩ := List.exists_first_diff ka kb h1 h2
  obtain ⟨tx, rfl⟩ := hx
  obtain ⟨ty, rfl⟩ := hy
  rw [ea, eb]
  simp only [List.append_assoc, List.cons_append, keyLt_append_left]
  simp [keyLt, hne]

theorem keyLt_irrefl (a : Key) : keyLt a a = false := by
  induction a with
  | nil => rfl
  | cons x xs ih => simp [keyLt, ih]

theorem keyLt_ne {a b : Key} (h : keyLt a b = true) : a ≠ b :=
  fun e => by rw [e, keyLt_irrefl] at h; cases h

theorem keyLt_trans {a b c : Key} (h1 : keyLt a b = true) (h2 : keyLt b c = true) : keyLt a c = true := by
  induction a generalizing b c with
  | nil => cases c with
    | nil => cases b <;> cases h1 <;> cases h2
    | cons => rfl
  | cons x xs ih =>
    cases b with
    | nil => cases h1
    | cons y ys => cases c with
      | nil => cases h2
      | cons z zs =>
        rw [keyLt_cons] at *
        rcases h1 with h1 | ⟨rfl, h1⟩ <;> rcases h2 with h2 | ⟨rfl, h2⟩
        · exact .inl (Bool.lt_trans h1 h2)
        · exact .inl h1
        · exact .inl h2
        · exact .inr ⟨rfl, ih h1 h2⟩

theorem keyLt_asymm {a b : Key} (h : keyLt a b = true) : keyLt b a = false :=
  Bool.eq_false_iff.2 fun h' => keyLt_ne (keyLt_trans h h') rfl

theorem keyLt_trichotomy (a b : Key) : keyLt a b = true ∨ a = b ∨ keyLt b a = true := by
  induction a generalizing b with
  | nil => cases b with
    | nil => exact .inr (.inl rfl)
    | cons => exact .inl rfl
  | cons x xs ih => cases b with
    | nil => exact .inr (.inr rfl)
    | cons y ys =>
      rw [keyLt_cons, keyLt_cons, List.cons.injEq]
      have : x < y ∨ x = y ∨ y < x := by cases x <;> cases y <;> decide
      rcases this with h | rfl | h
      · exact .inl (.inl h)
      · rcases ih ys with h | h | h
        · exact .inl (.inr ⟨rfl, h⟩)
        · exact .inr (.inl ⟨rfl, h⟩)
        · exact .inr (.inr (.inr ⟨rfl, h⟩))
      · exact .inr (.inr (.inl h))

theorem keyLt_total {a b : Key} (hne : a ≠ b) (h : keyLt a b = false) : keyLt b a = true := by
  rcases keyLt_trichotomy a b with h' | h' | h'
  · rw [h] at h'; cases h'
  · exact absurd h' hne
  · exact h'

variable {w : Nat} {V : Type}

@[reducible] def Sorted (s : SMap w V) : Prop := s.Pairwise (fun a b => keyLt (key a.1) (key b.1) = true)

theorem eq_of_sorted {s t : SMap w V} (hs : Sorted s) (ht : Sorted t) (h : ∀ x, x ∈ s ↔ x ∈ t) : s = t :=
  List.eq_of_sorted_of_mem_iff (lt := fun a b : Pfx w × V => keyLt (key a.1) (key b.1) = true)
    (fun _ h => keyLt_ne h rfl) (fun _ _ _ => keyLt_trans) _ _ hs ht h

end Spec
