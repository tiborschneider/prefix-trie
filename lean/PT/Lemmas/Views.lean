import PT.Lemmas.Order
import PT.Lemmas.Path
/-!
# Views: navigation (`find`, `find_exact`, `find_lpm`, `left`, `right`) against the entry list

A view is a path to an existing node (`Good`), possibly with a virtual prefix strictly above it; its
entries are those of that node (`ents`).  Each navigation step is specified by which of these entries the
new view holds and by `Good` being kept; the descents themselves are read through `sub` in Path.lean.
-/
namespace View
variable {w : Nat} {V : Type}
open Tree Pfx

/-- the subtree of `t` at the view's path is a node, well-formed at some key `kk` (nothing is asked of
the rest of `t`); a virtual prefix lies strictly above that node.  `Good.cases` is the interface. -/
def Good (t : Tree w V) (v : View w) : Prop :=
  ∃ kk s np nv nl nr, t.sub v.path = .node s np nv nl nr ∧ WF kk (.node s np nv nl nr) ∧
    ∀ q, v.virt = some q → q.net <+: np.net ∧ q.net ≠ np.net

def ents (t : Tree w V) (v : View w) : List (Pfx w × V) := (v.node t).entries

theorem iter_eq_ents (t : Tree w V) (v : View w) : v.iter t = v.ents t := iterAll_root _

section
variable {t : Tree w V} {v : View w} (hg : Good t v)
include hg

/-- the two kinds of good view: at a node (`ViewLoc::Node`), or strictly above one (`Virtual`) -/
theorem Good.cases :
    ∃ s np nv nl nr, v.node t = .node s np nv nl nr ∧ WF np.net (.node s np nv nl nr) ∧
      ((v.virt = none ∧ v.pfx t = some np) ∨
       ∃ q, v.virt = some q ∧ v.pfx t = some q ∧ q.net <+: np.net ∧ q.net ≠ np.net) := by
  obtain ⟨kk, s, np, nv, nl, nr, hs, hwf, hvirt⟩ := hg
  refine ⟨s, np, nv, nl, nr, hs, WF.self hwf, ?_⟩
  cases hv : v.virt with
  | none => exact .inl ⟨rfl, by simp only [pfx, hv, node, hs, pfx?]⟩
  | some q => exact .inr ⟨q, rfl, by simp only [pfx, hv], hvirt q hv⟩

/-- The end results say where a write through a view goes by `match v.virt, (v.node t).pfx?`: for a good
view that is decided by `virt` alone, so such a statement follows from its two hypothesis-form halves
(`x`: what the write produces, e.g. the new entry list, or a membership as a `Prop`; `A`: what it is when
the view is virtual and nothing is written; `B np`: what it is when the node with prefix `np` is written). -/
theorem Good.eq_match {α : Sort _} {x : α} {A : α} {B : Pfx w → α} (hvirt : ∀ q, v.virt = some q → x = A)
    (hnode : ∀ np, v.virt = none → (v.node t).pfx? = some np → x = B np) :
    x = (match v.virt, (v.node t).pfx? with | none, some np => B np | _, _ => A) := by
  obtain ⟨_, s, np, nv, nl, nr, hs, -⟩ := hg
  have hp : (v.node t).pfx? = some np := congrArg Tree.pfx? hs
  revert hvirt hnode
  rw [hp]
  cases v.virt with
  | none => exact fun _ h => h np rfl rfl
  | some q => exact fun h _ => h q rfl

theorem Good.node_isNil : (v.node t).isNil = false := by
  obtain ⟨_, _, _, _, _, _, hs, -⟩ := hg
  rw [node, hs]; rfl

theorem Good.sub {pa : List Bool} (hn : ((v.node t).sub pa).isNil = false) : Good t ⟨none, v.path ++ pa⟩ := by
  obtain ⟨kk, s, np, nv, nl, nr, hs, hwf, -⟩ := hg
  obtain ⟨kk', -, hwf'⟩ := hwf.sub pa
  rw [node, hs] at hn
  cases hs' : (Tree.node s np nv nl nr).sub pa with
  | nil => rw [hs'] at hn; cases hn
  | node s' np' nv' nl' nr' =>
    exact ⟨kk', s', np', nv', nl', nr', by rw [sub_append, hs, hs'], hs' ▸ hwf', fun _ h => nomatch h⟩

theorem Good.virt {q np : Pfx w} (hp : (v.node t).pfx? = some np) (h1 : q.net <+: np.net) (h2 : q.net ≠ np.net) :
    Good t ⟨some q, v.path⟩ := by
  obtain ⟨kk, s, np', nv, nl, nr, hs, hwf, -⟩ := hg
  rw [node, hs] at hp
  obtain rfl := Option.some.inj hp
  exact ⟨kk, s, np', nv, nl, nr, hs, hwf, fun q' h => by cases h; exact ⟨h1, h2⟩⟩

end

theorem ents_sub (t : Tree w V) (v : View w) (vt : Option (Pfx w)) (pa : List Bool) :
    ents t ⟨vt, v.path ++ pa⟩ = ((v.node t).sub pa).entries := by
  simp only [ents, node, sub_append]

theorem root_good {t : Tree w V} {s : Nat} {p : Pfx w} {x : Option V} {l r : Tree w V}
    (ht : t = .node s p x l r) (hwf : WF [] t) : Good t (root : View w) :=
  ⟨[], s, p, x, l, r, by simp [root, sub_nil, ht], ht ▸ hwf, fun q h => by simp [root] at h⟩

theorem good_pfx {t : Tree w V} {v : View w} (h : Good t v) : ∃ P, v.pfx t = some P := by
  obtain ⟨_, np, _, _, _, _, _, ⟨_, hp⟩ | ⟨q, _, hp, _⟩⟩ := h.cases
  · exact ⟨np, hp⟩
  · exact ⟨q, hp⟩

/-- a search below a good view that returns the path `o` of a valued node, read against its twin
`o'` that returns the entry: it fails when the twin does, and otherwise yields the good view at that entry -/
theorem Good.of_path {t : Tree w V} {v : View w} (hg : Good t v) {o : Option (List Bool)}
    {o' : Option (Pfx w × V)} (heq : o.map (fun pa => ((v.node t).sub pa).pv) = o'.map some) :
    (o.map (fun x => (⟨none, v.path ++ x⟩ : View w)) = none → o' = none) ∧
    ∀ v', o.map (fun x => (⟨none, v.path ++ x⟩ : View w)) = some v' →
      Good t v' ∧ v'.virt = none ∧ ∃ e, v'.prefixValue t = some e ∧ o' = some e := by
  refine ⟨fun h => ?_, fun v' h => ?_⟩
  · rw [Option.map_eq_none_iff.1 h] at heq
    exact Option.map_eq_none_iff.1 heq.symm
  · obtain ⟨pa, rfl, rfl⟩ := Option.map_eq_some_iff.1 h
    obtain ⟨e, rfl, he⟩ := Option.map_eq_some_iff.1 heq.symm
    have hpv : ((v.node t).sub pa).pv = some e := he.symm
    exact ⟨hg.sub (isNil_of_pv hpv), rfl, e, by simp only [prefixValue, node, sub_append]; exact hpv, rfl⟩

theorem find_spec {t : Tree w V} {v : View w} (hg : Good t v) (q : Pfx w) :
    (v.find t q = none → ∀ e ∈ v.ents t, ¬ q.net <+: e.1.net) ∧
    (∀ v', v.find t q = some v' →
      Good t v' ∧ (∃ P, v'.pfx t = some P ∧ P.net = q.net) ∧
      (∀ e, e ∈ v'.ents t ↔ e ∈ v.ents t ∧ q.net <+: e.1.net)) := by
  obtain ⟨s, np, nv, nl, nr, hs, hwf, -⟩ := hg.cases
  simp only [find, hs, pfx?, len_lt_and_contains_iff]
  split
  · -- the query lies strictly above the view's node: it selects the entire view
    next hpre =>
    refine ⟨(fun h => nomatch h), fun v' h => ?_⟩
    cases h
    refine ⟨hg.virt (by rw [hs]; rfl) hpre.1 hpre.2, ⟨q, rfl, rfl⟩, fun e => ?_⟩
    exact ⟨fun h => ⟨h, hpre.1.trans (hwf.mem_entries (hs ▸ h))⟩, fun h => h.1⟩
  · next hpre =>
    by_cases hcov : np.net <+: q.net
    · -- the view's node covers the query: the descent ends where `children(q)` starts
      have hmem := childrenStart_mem hwf (RootCovers.node hcov)
      refine ⟨fun h e he hq => ?_, fun v' h => ?_⟩
      · have := (hmem e).2 ⟨hs ▸ he, hq⟩
        rw [findGo_none (Option.map_eq_none_iff.1 h)] at this
        cases this
      · obtain ⟨⟨vt, pa⟩, hf, rfl⟩ := Option.map_eq_some_iff.1 h
        obtain ⟨np', hp', hpos⟩ := findGo_pos hf
        rw [← hs] at hp'
        have hsub : Good t ⟨none, v.path ++ pa⟩ := hg.sub (isNil_of_pfx hp')
        replace hp' : (View.node ⟨none, v.path ++ pa⟩ t).pfx? = some np' := by
          simp only [node, sub_append]; exact hp'
        refine ⟨?_, ?_, fun e => ?_⟩
        · rcases hpos with ⟨rfl, _⟩ | ⟨rfl, h1, h2⟩
          · exact hsub
          · exact hsub.virt hp' h1 h2
        · rcases hpos with ⟨rfl, hk⟩ | ⟨rfl, _⟩
          · exact ⟨np', hp', hk⟩
          · exact ⟨q, rfl, rfl⟩
        · rw [ents_sub, hs, findGo_some hf, hmem e, ents, hs]
    · -- neither: nothing to find
      have hq2 : ¬ q.net <+: np.net := fun hq => hpre ⟨hq, fun e => hcov (e ▸ List.prefix_refl _)⟩
      rw [findGo_incomparable hwf hcov hq2]
      refine ⟨fun _ e he => hwf.not_covered hcov hq2 e (hs ▸ he), fun v' h => nomatch h⟩

theorem findExact_spec {t : Tree w V} {v : View w} (hg : Good t v) (q : Pfx w) :
    (v.findExact t q = none → ∀ e ∈ v.ents t, e.1.net ≠ q.net) ∧
    (∀ v', v.findExact t q = some v' →
      Good t v' ∧ v'.virt = none ∧ ∃ P x, v'.prefixValue t = some (P, x) ∧ P.net = q.net ∧ (P, x) ∈ v.ents t) := by
  obtain ⟨s, np, nv, nl, nr, hs, hwf, -⟩ := hg.cases
  have hkv := getKeyValue_iff (hs ▸ hwf) q
  obtain ⟨h0, h1⟩ := hg.of_path (findExactGo_eq (v.node t) q)
  refine ⟨fun h e he hk => ?_, fun v' h => ?_⟩
  · have := h0 h
    rw [(hkv e.1 e.2).2 ⟨he, hk⟩] at this
    cases this
  · obtain ⟨hg', hv, e, hpv, hk⟩ := h1 v' h
    exact ⟨hg', hv, e.1, e.2, hpv, ((hkv e.1 e.2).1 hk).2, ((hkv e.1 e.2).1 hk).1⟩

theorem findLpm_spec {t : Tree w V} {v : View w} (hg : Good t v) (q : Pfx w) :
    (v.findLpm t q = none → ∀ e ∈ v.ents t, ¬ e.1.net <+: q.net) ∧
    (∀ v', v.findLpm t q = some v' →
      Good t v' ∧ v'.virt = none ∧ ∃ e, v'.prefixValue t = some e ∧
        (covering (v.node t) q).getLast? = some e) := by
  obtain ⟨s, np, nv, nl, nr, hs, hwf, -⟩ := hg.cases
  simp only [findLpm, hs, pfx?]
  by_cases hcov : np.contains q = true
  · have hcov' := (contains_iff np q).1 hcov
    simp only [hcov, Bool.not_true, Bool.false_eq_true, ite_false]
    -- the loop returns the path of what `get_lpm` returns, the last covering entry
    have heq := findLpmGo_eq q (sub_nil (.node s np nv nl nr)) (best := none) (bestpv := none) rfl
    rw [getLpm_eq_covering hwf q none (RootCovers.node hcov'), Option.or_none, ← hs] at heq
    obtain ⟨h0, h1⟩ := hg.of_path heq
    refine ⟨fun h e he hcq => ?_, hs ▸ h1⟩
    have : e ∈ covering (v.node t) q := List.mem_filter.2 ⟨he, (contains_iff _ _).2 hcq⟩
    rw [List.getLast?_eq_none_iff.1 (h0 (hs ▸ h))] at this
    cases this
  · simp only [hcov, Bool.not_false, ite_true]
    exact ⟨fun _ e he hcq => hcov ((contains_iff np q).2 ((hwf.mem_entries (hs ▸ he)).trans hcq)),
      fun v' h => nomatch h⟩

def side (t : Tree w V) (v : View w) (c : Bool) : Option (View w) := if c then v.right t else v.left t

section
variable {t : Tree w V} {v : View w} {s : Nat} {np : Pfx w} {nv : Option V} {nl nr : Tree w V}

theorem side_node (hs : v.node t = .node s np nv nl nr) (hv : v.virt = none) (c : Bool) :
    side t v c = (match child nl nr c with
      | .node .. => some ⟨none, v.path ++ [c]⟩
      | .nil => none) := by
  unfold side left right
  cases c <;> simp only [hv, hs, Bool.false_eq_true, ite_false, ite_true, child_false, child_true]
  · cases nl <;> rfl
  · cases nr <;> rfl

theorem side_virtual {q : Pfx w} (hs : v.node t = .node s np nv nl nr) (hv : v.virt = some q) (c : Bool) :
    side t v c = if toRight q np = c then some ⟨none, v.path⟩ else none := by
  unfold side left right
  cases c <;> cases hb : toRight q np <;> simp [hv, hs, hb]

theorem side_ents_node (hs : v.node t = .node s np nv nl nr) (hv : v.virt = none) (c : Bool) :
    (match side t v c with | some v' => v'.ents t | none => []) = (child nl nr c).entries := by
  rw [side_node hs hv c]
  cases hch : child nl nr c with
  | nil => rfl
  | node cs cp cv cl cr => simp only [ents_sub, hs, sub_cons_node, hch, sub_nil]

end

theorem side_spec {t : Tree w V} {v : View w} (hg : Good t v) {P : Pfx w} (hP : v.pfx t = some P) (c : Bool) :
    (side t v c = none → ∀ e ∈ v.ents t, ¬ P.net ++ [c] <+: e.1.net) ∧
    (∀ v', side t v c = some v' →
      Good t v' ∧ ∀ e, e ∈ v'.ents t ↔ e ∈ v.ents t ∧ P.net ++ [c] <+: e.1.net) := by
  obtain ⟨s, np, nv, nl, nr, hs, hwf, ⟨hv, hp⟩ | ⟨q, hv, hp, hq1, hq2⟩⟩ := hg.cases
  all_goals obtain rfl := Option.some.inj (hP.symm.trans hp)
  · -- at a node: the side is the child, and the child holds what continues the key with `c`
    have hch := side_ents_node hs hv c
    have hiff := fun e => hwf.mem_child_iff c (e := e)
    rw [← hs, ← hch] at hiff
    refine ⟨fun h e he hc => ?_, fun v' h => ⟨?_, fun e => ?_⟩⟩
    · have := (hiff e).2 ⟨he, hc⟩
      rw [h] at this; cases this
    · rw [side_node hs hv c] at h
      split at h
      · next hc => cases h; exact hg.sub (by rw [hs, sub_cons_node, hc, sub_nil]; rfl)
      · cases h
    · rw [h] at hiff; exact hiff e
  · -- above a node: the side towards the node is the whole view, the other side is empty
    have hside := side_prefix hq1 hq2
    have hall : ∀ e ∈ v.ents t, P.net ++ [toRight P np] <+: e.1.net := fun e he => by
      rw [ents, hs] at he
      exact hside.trans (hwf.mem_entries he)
    rw [side_virtual hs hv c]
    split
    · next hb =>
      subst hb
      refine ⟨(fun h => nomatch h), fun v' h => ?_⟩
      cases h
      have hreal : Good t ⟨none, v.path ++ []⟩ := hg.sub (by rw [sub_nil, hs]; rfl)
      rw [List.append_nil] at hreal
      exact ⟨hreal, fun e => ⟨fun h => ⟨h, hall e h⟩, fun h => h.1⟩⟩
    · next hb =>
      refine ⟨fun _ e he hc => ?_, fun v' h => nomatch h⟩
      exact List.not_prefix_of_sides (fun h => hb h.symm) hc (hall e he) (List.prefix_refl _)

theorem ents_decompose {t : Tree w V} {v : View w} (hg : Good t v) :
    v.ents t = (v.prefixValue t).toList ++
      (match side t v false with | some l => l.ents t | none => []) ++
      (match side t v true with | some r => r.ents t | none => []) := by
  obtain ⟨s, np, nv, nl, nr, hs, -, ⟨hv, -⟩ | ⟨q, hv, -⟩⟩ := hg.cases
  · rw [side_ents_node hs hv, side_ents_node hs hv, ents, prefixValue, hv, hs, entries_node]
    cases nv <;> rfl
  · rw [side_virtual hs hv false, side_virtual hs hv true, prefixValue, hv]
    cases toRight q np <;> simp [ents, node]

theorem value_spec {t : Tree w V} {v : View w} (hg : Good t v) {P : Pfx w} (hP : v.pfx t = some P) (x : V) :
    v.value t = some x ↔ ∃ p, (p, x) ∈ v.ents t ∧ p.net = P.net := by
  obtain ⟨s, np, nv, nl, nr, hs, hwf, ⟨hv, hp⟩ | ⟨q, hv, hp, hq1, hq2⟩⟩ := hg.cases
  all_goals
    obtain rfl := Option.some.inj (hP.symm.trans hp)
    simp only [value, ents, hv, hs, value?]
  · refine ⟨fun h => ⟨P, mem_entries_node.2 (.inl (mem_own.2 ⟨h, rfl⟩)), rfl⟩, ?_⟩
    rintro ⟨p, he, hk⟩
    exact (mem_own.1 (hwf.mem_own_of_key he hk)).1
  · refine ⟨(fun h => nomatch h), ?_⟩
    rintro ⟨p, he, hk⟩
    have := hwf.mem_entries he
    exact absurd (hq1.eq_of_length_le (hk ▸ this).length_le) hq2

/-- a sequence of `left()` / `right()` steps; `none` as soon as one of them fails -/
def nav (t : Tree w V) (v : View w) : List Bool → Option (View w)
  | [] => some v
  | c :: cs => match side t v c with
    | some v' => nav t v' cs
    | none => none

theorem nav_good {t : Tree w V} {v v' : View w} (hg : Good t v) {cs : List Bool} (h : nav t v cs = some v') :
    Good t v' := by
  induction cs generalizing v with
  | nil => simp only [nav, Option.some.injEq] at h; exact h ▸ hg
  | cons c cs ih =>
    unfold nav at h
    split at h
    · next v1 hv1 =>
      obtain ⟨P, hP⟩ := good_pfx hg
      exact ih ((side_spec hg hP c).2 v1 hv1).1 h
    · cases h

end View
