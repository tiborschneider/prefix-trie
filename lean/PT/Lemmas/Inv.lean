import PT.Lemmas.Card
import PT.Lemmas.Map
/-!
# The map invariant: tree shape, entry counter, slot partition — and its preservation

The slot partition is used in the form `Inv.perm`: tree slots and free list together are a
permutation of `0 .. alloc-1`.  A mutator either returns slots to the free list (`Inv.of_freed`) or
takes some from the allocator (`takeSlots_perm`).
-/
namespace PMap
variable {w : Nat} {V : Type}
open Tree

structure Inv (m : PMap w V) : Prop where
  /-- root at slot 0 with the zero-length prefix; every child strictly longer than, covered by and
  on the side selected by the next bit of its parent -/
  tree : m.TreeWF
  /-- `len()` is the number of stored entries -/
  count : m.count = m.root.card
  /-- every slot ever allocated (`< alloc`) is exactly once in the tree or in the free list — never
  both, never neither … -/
  slots_lt : ∀ a, a < m.alloc → (m.root.slots ++ m.free).count a = 1
  /-- … and nothing else is -/
  slots_ge : ∀ a, m.alloc ≤ a → (m.root.slots ++ m.free).count a = 0

theorem Inv.perm {m : PMap w V} (h : m.Inv) : (m.root.slots ++ m.free).Perm (List.range m.alloc) := by
  rw [List.perm_iff_count]
  intro a
  rw [List.count_range]
  by_cases c : a < m.alloc
  · simp [c, h.slots_lt a c]
  · simp [c, h.slots_ge a (by omega)]

theorem Inv.slots_nodup {m : PMap w V} (h : m.Inv) : (m.root.slots ++ m.free).Nodup :=
  h.perm.nodup_iff.2 List.nodup_range

theorem Inv.of_perm {m : PMap w V} (tree : m.TreeWF) (count : m.count = m.root.card)
    (perm : (m.root.slots ++ m.free).Perm (List.range m.alloc)) : m.Inv := by
  refine ⟨tree, count, fun a ha => ?_, fun a ha => ?_⟩ <;> rw [perm.count_eq, List.count_range]
  · simp [ha]
  · simp; omega

theorem empty_inv : (empty : PMap w V).Inv := .of_perm empty_treeWF rfl (.refl _)

theorem Inv.of_freed {m : PMap w V} (h : m.Inv) {t : Tree w V} {freed : List Nat} {c : Nat}
    (tree : (⟨t, m.free ++ freed, m.alloc, c⟩ : PMap w V).TreeWF) (count : c = t.card)
    (hs : (freed ++ t.slots).Perm m.root.slots) : (⟨t, m.free ++ freed, m.alloc, c⟩ : PMap w V).Inv :=
  have front : (t.slots ++ (m.free ++ freed)).Perm (freed ++ t.slots ++ m.free) := by
    rw [← List.append_assoc, List.append_assoc freed]; exact List.perm_append_comm
  .of_perm tree count (front.trans ((hs.append_right _).trans h.perm))

theorem Inv.of_skel {m : PMap w V} (h : m.Inv) {t : Tree w V} (hs : PT.C15.skel t = PT.C15.skel m.root) {c : Nat}
    (count : c = t.card) : (⟨t, m.free, m.alloc, c⟩ : PMap w V).Inv :=
  .of_perm (h.tree.of_skel hs _ _ _) count
    (by rw [show (PMap.mk t m.free m.alloc c).root.slots = _ from slots_of_skel hs]; exact h.perm)

theorem takeSlots_one_cases (free : List Nat) (alloc : Nat) :
    (free = [] ∧ nextSlot free alloc = alloc ∧ takeSlots 1 free alloc = ([], alloc + 1)) ∨
    (∃ ys x, free = ys ++ [x] ∧ nextSlot free alloc = x ∧ takeSlots 1 free alloc = (ys, alloc)) := by
  cases h : free.getLast? with
  | none =>
    have : free = [] := List.getLast?_eq_none_iff.1 h
    subst this
    exact .inl ⟨rfl, rfl, rfl⟩
  | some x =>
    obtain ⟨ys, hys⟩ := List.getLast?_eq_some_iff.1 h
    subst hys
    refine .inr ⟨ys, x, rfl, ?_, ?_⟩
    · simp [nextSlot]
    · simp [takeSlots]

theorem takeSlots_succ (k : Nat) (free : List Nat) (alloc : Nat) :
    takeSlots (k + 1) free alloc = takeSlots k (takeSlots 1 free alloc).1 (takeSlots 1 free alloc).2 := by
  cases h : free.getLast? <;> simp [takeSlots, h]

/-- the slots returned by `k` successive calls of `new_node` -/
def popped : Nat → List Nat → Nat → List Nat
  | 0, _, _ => []
  | k + 1, free, alloc => nextSlot free alloc :: popped k (takeSlots 1 free alloc).1 (takeSlots 1 free alloc).2

/-- `inUse`: for the map, the tree's slots -/
theorem takeSlots_perm (k : Nat) {inUse free : List Nat} {alloc : Nat}
    (h : (inUse ++ free).Perm (List.range alloc)) :
    ((popped k free alloc ++ inUse) ++ (takeSlots k free alloc).1).Perm (List.range (takeSlots k free alloc).2) := by
  induction k generalizing inUse free alloc with
  | zero => exact h
  | succ k ih =>
    rw [takeSlots_succ, popped]
    have h1 : ((inUse ++ [nextSlot free alloc]) ++ (takeSlots 1 free alloc).1).Perm
        (List.range (takeSlots 1 free alloc).2) := by
      rcases takeSlots_one_cases free alloc with ⟨rfl, e2, e3⟩ | ⟨ys, x, rfl, e2, e3⟩ <;> rw [e2, e3]
      · simpa [List.range_succ] using h.append_right [alloc]
      · refine .trans ?_ h
        rw [List.append_assoc]; exact .append_left _ List.perm_append_comm
    refine .trans (.append_right _ ?_) (ih h1)
    rw [← List.append_assoc]; exact (List.perm_append_singleton _ _).symm

theorem take_eq_popped {used : Nat} (hu : used ≤ 2) (free : List Nat) (alloc : Nat) :
    [nextSlot free alloc, secondSlot free alloc].take used = popped used free alloc := by
  match used, hu with
  | 0, _ | 1, _ | 2, _ => rfl

theorem count_dec {c c' : Nat} {b : Bool} (h : c' + (if b then 1 else 0) = c) :
    (if b then c - 1 else c) = c' := by
  cases b <;> simp only [Bool.false_eq_true, ite_false, ite_true] at h ⊢ <;> omega

theorem insert_inv {m : PMap w V} (h : m.Inv) (q : Pfx w) (x : V) : (m.insert q x).1.Inv := by
  have hu := used_le_two m.root q x (nextSlot m.free m.alloc) (secondSlot m.free m.alloc)
  refine .of_perm (insert_treeWF h.tree q x) ?_ ?_
  · have := card_insert m.root h.tree.root_ne_nil q x (nextSlot m.free m.alloc) (secondSlot m.free m.alloc)
    show (if (m.insertRes q x).old.isSome then m.count else m.count + 1) = (m.insertRes q x).t.card
    rw [insertRes, this, h.count]
    split <;> rfl
  · refine ((slots_insert m.root q x _ _).append_right _).trans ?_
    rw [take_eq_popped hu]
    exact takeSlots_perm _ h.perm

theorem remove_inv {m : PMap w V} (h : m.Inv) (q : Pfx w) : (m.remove q).1.Inv := by
  refine h.of_freed (remove_treeWF h.tree q) ?_ (slots_remove m.root q false)
  rw [h.count]; exact count_dec (card_remove h.tree.wf q false)

theorem removeKeepTree_inv {m : PMap w V} (h : m.Inv) (q : Pfx w) : (m.removeKeepTree q).1.Inv := by
  refine h.of_skel (skel_takeValue m.root q) ?_
  rw [h.count]; exact count_dec (card_takeValue m.root q)

theorem modify_inv {m : PMap w V} (h : m.Inv) (q : Pfx w) (f : V → V) : (m.modify q f).Inv :=
  h.of_skel (skel_modifyValue m.root q f) (h.count.trans (card_modifyValue ..).symm)

theorem clear_inv (m : PMap w V) : m.clear.Inv := empty_inv

theorem orInsert_inv {m : PMap w V} (h : m.Inv) (q : Pfx w) (x : V) : (m.orInsert q x).1.Inv := by
  rw [orInsert_fst]; split
  · exact h
  · exact insert_inv h q x

theorem retain_induction {P : PMap w V → Prop} (hrem : ∀ m q, P m → P (m.remove q).1) {m : PMap w V} (h : P m)
    (f : Pfx w → V → Bool) (stop : Option Nat := none) : P (m.retain f stop) :=
  List.foldlRecOn (motive := P) _ _ h fun m hm e _ => by unfold retainStep; split; exact hm; exact hrem m e.1 hm

theorem retain_inv {m : PMap w V} (h : m.Inv) (f : Pfx w → V → Bool) (stop : Option Nat := none) :
    (m.retain f stop).Inv :=
  retain_induction (P := Inv) (fun _ q hm => remove_inv hm q) h f stop

theorem retain_treeWF {m : PMap w V} (h : m.TreeWF) (f : Pfx w → V → Bool) (stop : Option Nat := none) :
    (m.retain f stop).TreeWF :=
  retain_induction (P := TreeWF) (fun _ q hm => remove_treeWF hm q) h f stop

theorem collect_inv (xs : List (Pfx w × V)) : (collect xs).Inv :=
  List.foldlRecOn (motive := Inv) xs _ empty_inv fun _ hm e _ => insert_inv hm e.1 e.2

theorem Inv.ext {m m' : PMap w V} (h : m.Inv) (h' : m'.Inv) (hr : m.root = m'.root) (hf : m.free = m'.free)
    (ha : m.alloc = m'.alloc) : m = m' := by
  have hc := h.count.trans ((congrArg Tree.card hr).trans h'.count.symm)
  cases m; cases m'; cases hr; cases hf; cases ha; cases hc; rfl

/-- the decrement of `remove`, `remove_keep_tree`, `OccupiedEntry::remove` never underflows -/
theorem Inv.count_pos {m : PMap w V} (h : m.Inv) {q : Pfx w} (hq : (m.get q).isSome = true) : 0 < m.count := by
  have := card_takeValue m.root q
  rw [h.count]; rw [show (m.root.get q).isSome = true from hq, if_pos rfl] at this; omega

end PMap
