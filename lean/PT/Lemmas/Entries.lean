import PT.MapOps
/-!
# The entry list of a node, and what an edit of one child does to it

`entries (node s p v l r) = own p v ++ l.entries ++ r.entries`.  Every mutator rebuilds the path back up with
`setChild`; the *frame lemmas* say that an edit of the child on side `b` which filters (maps, adds to) its
entries does the same to the node's, provided the own entry and the other child are left alone.  Nothing
here knows about prefixes: which entries a filter leaves alone is the business of `WF.lean`.
-/

namespace List
/-- core's `filter_eq_nil_iff` asks for `¬ f e = true`; the lemmas about subtrees produce `f e = false` -/
theorem filter_false {α : Type} {f : α → Bool} {es : List α} (h : ∀ e ∈ es, f e = false) :
    es.filter f = [] := filter_eq_nil_iff.2 fun e he => by simp [h e he]

theorem filter_not_false {α : Type} {f : α → Bool} {es : List α} (h : ∀ e ∈ es, f e = false) :
    es.filter (fun e => !f e) = es := filter_eq_self.2 fun e he => by rw [h e he]; rfl
end List

namespace Tree
variable {w : Nat} {V : Type}

@[simp] theorem child_true (l r : Tree w V) : child l r true = r := rfl
@[simp] theorem child_false (l r : Tree w V) : child l r false = l := rfl
@[simp] theorem setChild_true (s : Nat) (p : Pfx w) (v : Option V) (l r c : Tree w V) :
    setChild s p v l r true c = node s p v l c := rfl
@[simp] theorem setChild_false (s : Nat) (p : Pfx w) (v : Option V) (l r c : Tree w V) :
    setChild s p v l r false c = node s p v c r := rfl

/-- what a node contributes itself to `entries` -/
def own (p : Pfx w) (v : Option V) : List (Pfx w × V) :=
  match v with
  | some x => [(p, x)]
  | none => []

theorem entries_node (s : Nat) (p : Pfx w) (v : Option V) (l r : Tree w V) :
    (node s p v l r).entries = own p v ++ l.entries ++ r.entries := by
  cases v <;> rfl

theorem mem_own {p : Pfx w} {v : Option V} {e : Pfx w × V} : e ∈ own p v ↔ v = some e.2 ∧ e.1 = p := by
  cases v <;> simp [own, Prod.ext_iff, and_comm, eq_comm]

theorem mem_entries_node {s : Nat} {p : Pfx w} {v : Option V} {l r : Tree w V} {e : Pfx w × V} :
    e ∈ (node s p v l r).entries ↔ e ∈ own p v ∨ e ∈ l.entries ∨ e ∈ r.entries := by
  rw [entries_node, List.mem_append, List.mem_append, or_assoc]

theorem mem_entries_setChild {s : Nat} {p : Pfx w} {v : Option V} {l r c : Tree w V} {b : Bool}
    {e : Pfx w × V} :
    e ∈ (setChild s p v l r b c).entries ↔ e ∈ own p v ∨ e ∈ c.entries ∨ e ∈ (child l r (!b)).entries := by
  cases b
  · exact mem_entries_node
  · exact mem_entries_node.trans (or_congr_right or_comm)

section node
variable {s : Nat} {p : Pfx w} {v : Option V} {l r : Tree w V} {f : Pfx w × V → Bool}

theorem mem_entries_children (b : Bool) {e : Pfx w × V} :
    e ∈ (node s p v l r).entries ↔ e ∈ own p v ∨ e ∈ (child l r b).entries ∨ e ∈ (child l r (!b)).entries := by
  rw [mem_entries_node]
  cases b
  · exact Iff.rfl
  · exact or_congr_right or_comm

theorem filter_node_side (b : Bool) (hoth : ∀ e ∈ (child l r (!b)).entries, f e = false) :
    (node s p v l r).entries.filter f = (own p v).filter f ++ (child l r b).entries.filter f := by
  rw [entries_node, List.filter_append, List.filter_append]
  cases b
  · rw [show r.entries.filter f = [] from List.filter_false hoth, List.append_nil]; rfl
  · rw [show l.entries.filter f = [] from List.filter_false hoth, List.append_nil]; rfl

theorem filter_node_own (h : ∀ b, ∀ e ∈ (child l r b).entries, f e = false) :
    (node s p v l r).entries.filter f = (own p v).filter f := by
  rw [filter_node_side true (h _), List.filter_false (h true), List.append_nil]

theorem entries_setChild_filter {b : Bool} {c : Tree w V} (hown : ∀ e ∈ own p v, f e = false)
    (hoth : ∀ e ∈ (child l r (!b)).entries, f e = false)
    (hc : c.entries = (child l r b).entries.filter (fun e => !f e)) :
    (setChild s p v l r b c).entries = (node s p v l r).entries.filter (fun e => !f e) := by
  rw [entries_node, List.filter_append, List.filter_append, List.filter_not_false hown]
  cases b
  · rw [setChild_false, entries_node, hc, show r.entries.filter _ = r.entries from List.filter_not_false hoth]; rfl
  · rw [setChild_true, entries_node, hc, show l.entries.filter _ = l.entries from List.filter_not_false hoth]; rfl

theorem entries_setChild_map {g : Pfx w × V → Pfx w × V} {b : Bool} {c : Tree w V}
    (hown : (own p v).map g = own p v) (hoth : (child l r (!b)).entries.map g = (child l r (!b)).entries)
    (hc : c.entries = (child l r b).entries.map g) :
    (setChild s p v l r b c).entries = (node s p v l r).entries.map g := by
  rw [entries_node, List.map_append, List.map_append, hown]
  cases b
  · rw [setChild_false, entries_node, hc, show r.entries.map g = r.entries from hoth]; rfl
  · rw [setChild_true, entries_node, hc, show l.entries.map g = l.entries from hoth]; rfl

theorem mem_setChild_insert {b : Bool} {c : Tree w V} {a : Pfx w × V} (hown : ∀ e ∈ own p v, f e = false)
    (hoth : ∀ e ∈ (child l r (!b)).entries, f e = false)
    (hc : ∀ e, e ∈ c.entries ↔ e = a ∨ e ∈ (child l r b).entries.filter (fun e => !f e)) (e : Pfx w × V) :
    e ∈ (setChild s p v l r b c).entries ↔ e = a ∨ e ∈ (node s p v l r).entries.filter (fun e => !f e) := by
  have hown' : e ∈ own p v → (!f e) = true := fun h => by rw [hown e h]; rfl
  have hoth' : e ∈ (child l r (!b)).entries → (!f e) = true := fun h => by rw [hoth e h]; rfl
  rw [mem_entries_setChild, hc, List.mem_filter, List.mem_filter, mem_entries_children b, or_and_right,
    or_and_right, and_iff_left_of_imp hown', and_iff_left_of_imp hoth', or_assoc, or_left_comm]

theorem mem_setChild_add {b : Bool} {c : Tree w V} {a : Pfx w × V}
    (hc : ∀ e, e ∈ c.entries ↔ e = a ∨ e ∈ (child l r b).entries) (e : Pfx w × V) :
    e ∈ (setChild s p v l r b c).entries ↔ e = a ∨ e ∈ (node s p v l r).entries := by
  rw [mem_entries_setChild, hc, mem_entries_children b, or_assoc, or_left_comm]

theorem filter_not_node_own (h : ∀ b, ∀ e ∈ (child l r b).entries, f e = false)
    (hown : ∀ e ∈ own p v, f e = true) :
    (node s p v l r).entries.filter (fun e => !f e) = l.entries ++ r.entries := by
  rw [entries_node, List.filter_append, List.filter_append,
    List.filter_false (fun e he => by rw [hown e he]; rfl),
    show l.entries.filter _ = l.entries from List.filter_not_false (h false),
    show r.entries.filter _ = r.entries from List.filter_not_false (h true), List.nil_append]

end node

end Tree
