import PT.Lemmas.Canon
import PT.Lemmas.Views
/-!
# Views of a canonical trie: a sub-view or side exists exactly when it holds an entry
-/
namespace View
variable {w : Nat} {V : Type}
open Tree

theorem good_path_nil {m : PMap w V} (h : m.TreeWF) {v : View w} (hg : Good m.root v) (hp : v.path = []) :
    v = View.root := by
  obtain ⟨s, np, nv, nl, nr, hs, -, ⟨hv, -⟩ | ⟨q, -, -, hq1, hq2⟩⟩ := hg.cases
  · cases v; cases hv; cases hp; rfl
  · rw [View.node, hp, sub_nil] at hs
    have hn := h.root_pfx np (by rw [hs]; rfl)
    exact absurd (List.prefix_nil.1 (hn ▸ hq1)) (hn ▸ hq2)

theorem ents_ne_nil {m : PMap w V} (h : m.TreeWF) (c : m.Canonical) {v : View w} (hg : Good m.root v)
    (hne : v ≠ View.root) : v.ents m.root ≠ [] := by
  exact entries_ne_nil (Canon.sub c v.path fun hp => hne (good_path_nil h hg hp)) hg.node_isNil

theorem side_ne_root {m : PMap w V} (h : m.TreeWF) {v v' : View w} (hg : Good m.root v) {c : Bool}
    (hs' : View.side m.root v c = some v') : v' ≠ View.root := by
  obtain ⟨s, np, nv, nl, nr, hs, -, ⟨hv, -⟩ | ⟨q, hv, -⟩⟩ := hg.cases
  · rw [side_node hs hv c] at hs'
    split at hs'
    · cases hs'
      exact fun e => List.cons_ne_nil _ _ (List.append_eq_nil_iff.1 (congrArg View.path e)).2
    · cases hs'
  · rw [side_virtual hs hv c] at hs'
    split at hs'
    · cases hs'
      intro e
      have := good_path_nil h hg (congrArg View.path e)
      rw [this] at hv
      cases hv
    · cases hs'

/-- in a canonical trie a navigation step that yields no whole-map view succeeds exactly when its
result would hold an entry (`hnone`, `hsome`: the two halves of the step's specification) -/
theorem step_isSome_iff {m : PMap w V} (h : m.TreeWF) (c : m.Canonical) {o : Option (View w)}
    {E : List (Pfx w × V)} {P : Pfx w × V → Prop} (hnone : o = none → ∀ e ∈ E, ¬ P e)
    (hsome : ∀ v', o = some v' →
      Good m.root v' ∧ v' ≠ View.root ∧ ∀ e, e ∈ v'.ents m.root ↔ e ∈ E ∧ P e) :
    o.isSome = true ↔ ∃ e ∈ E, P e := by
  cases ho : o with
  | none => exact ⟨(fun h => nomatch h), fun ⟨e, he, hp⟩ => absurd hp (hnone ho e he)⟩
  | some v' =>
    obtain ⟨hg, hne, hm⟩ := hsome v' ho
    obtain ⟨e, he⟩ := List.exists_mem_of_ne_nil _ (ents_ne_nil h c hg hne)
    exact ⟨fun _ => ⟨e, ((hm e).1 he).1, ((hm e).1 he).2⟩, fun _ => rfl⟩

end View
