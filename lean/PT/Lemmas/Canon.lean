import PT.Lemmas.Card
import PT.Lemmas.Inv
import PT.Lemmas.Map
/-!
# Canonical shape

`Canon isRoot t`: every value-less node other than the root has two children.  `insert` and `remove`
(hence `retain`, a fold of `remove` in the model, and `collect`, a fold of `insert`) preserve it; and a
well-formed canonical tree is determined, up to slot numbers, host bits of value-less nodes and the
values themselves, by the list of its keys (`shape_unique`).
-/
namespace Tree
variable {w : Nat} {V : Type}

/-- every value-less node other than the root has two children.  `isRoot` says whether `t` hangs at the
root position; `_remove_node` is told `hasPar`, the opposite, so the preservation lemmas pass `!isRoot` -/
def Canon : Bool → Tree w V → Prop
  | _, nil => True
  | isRoot, node _ _ v l r =>
    (isRoot = true ∨ v.isSome = true ∨ (l.isNil = false ∧ r.isNil = false)) ∧ Canon false l ∧ Canon false r

/-- the shape observable through views: key (network form) and value presence of every node -/
inductive Shape where
  | nil
  | node (key : List Bool) (valued : Bool) (l r : Shape)
deriving DecidableEq

def shape : Tree w V → Shape
  | nil => .nil
  | node _ p v l r => .node p.net v.isSome (shape l) (shape r)

def keys (t : Tree w V) : List (List Bool) := t.entries.map (·.1.net)

theorem Canon.weaken {isRoot : Bool} {t : Tree w V} (h : Canon false t) : Canon isRoot t := by
  cases t with
  | nil => trivial
  | node s p v l r => exact ⟨.inr (h.1.resolve_left Bool.false_ne_true), h.2⟩

section
variable {isRoot : Bool} {s : Nat} {p : Pfx w} {v : Option V} {l r : Tree w V}

theorem Canon.child (h : Canon isRoot (node s p v l r)) (right : Bool) : Canon false (child l r right) := by
  cases right
  · exact h.2.1
  · exact h.2.2

theorem Canon.two_children (h : Canon false (node s p none l r)) : l.isNil = false ∧ r.isNil = false :=
  (h.1.resolve_left nofun).resolve_left nofun

/-- `hn`: the new child is not `nil` where the old one was needed as a second child -/
theorem canon_setChild (h : Canon isRoot (node s p v l r)) (b : Bool) {t : Tree w V} (ht : Canon false t)
    (hn : isRoot = true ∨ v.isSome = true ∨ ((child l r b).isNil = false → t.isNil = false)) :
    Canon isRoot (setChild s p v l r b t) := by
  have key : isRoot = true ∨ v.isSome = true ∨ (t.isNil = false ∧ (child l r (!b)).isNil = false) := by
    rcases h.1 with h1 | h1 | h1
    · exact .inl h1
    · exact .inr (.inl h1)
    · exact hn.imp_right (·.imp_right fun hn => by cases b; exact ⟨hn h1.1, h1.2⟩; exact ⟨hn h1.2, h1.1⟩)
  cases b
  · exact ⟨key, ht, h.2.2⟩
  · exact ⟨key.imp_right (·.imp_right And.symm), h.2.1, ht⟩

end

theorem Canon.sub {b : Bool} {t : Tree w V} (h : Canon b t) (path : List Bool) (hp : path ≠ []) :
    Canon false (t.sub path) := by
  induction path generalizing b t with
  | nil => exact absurd rfl hp
  | cons c cs ih =>
    cases t with
    | nil => rw [sub_nil_tree]; trivial
    | node s p v l r =>
      rw [sub_cons_node]
      cases cs with
      | nil => rw [sub_nil]; exact h.child c
      | cons d ds => exact ih (h.child c) (List.cons_ne_nil d ds)

theorem size_pos {t : Tree w V} (h : t.isNil = false) : 0 < t.size := by
  cases t with
  | nil => cases h
  | node => simp only [size]; omega

theorem Canon.size_le {t : Tree w V} (h : Canon false t) : t.size = 0 ∨ t.size + 1 ≤ 2 * t.card := by
  induction t with
  | nil => exact .inl rfl
  | node s p v l r ihl ihr =>
    right
    rw [size, card_node]
    rcases h.1 with h1 | h1 | h1
    · cases h1
    · have hl := ihl h.2.1
      have hr := ihr h.2.2
      rw [if_pos h1]; omega
    · have hl := (ihl h.2.1).resolve_left (Nat.ne_of_gt (size_pos h1.1))
      have hr := (ihr h.2.2).resolve_left (Nat.ne_of_gt (size_pos h1.2))
      omega

/-- the root may be value-less with fewer than two children; the empty map (one node, no entry) attains the bound -/
theorem Canon.size_le_root {t : Tree w V} (h : Canon true t) : t.size ≤ 2 * t.card + 1 := by
  cases t with
  | nil => exact Nat.zero_le _
  | node s p v l r =>
    have hl := h.2.1.size_le
    have hr := h.2.2.size_le
    rw [size, card_node]; omega

theorem entries_ne_nil {t : Tree w V} (h : Canon false t) (hn : t.isNil = false) : t.entries ≠ [] := by
  intro he
  have h1 := h.size_le
  have h2 := size_pos hn
  rw [card, he, List.length_nil] at h1; omega

theorem insert_isNil (t : Tree w V) (q : Pfx w) (x : V) (s1 s2 : Nat) :
    (insert t q x s1 s2).t.isNil = t.isNil := by
  cases t with
  | nil => rfl
  | node s p v l r =>
    rw [insert_node]
    cases dirIns p l r q with
    | reached => rfl
    | enter c | newLeaf c | newChild c _ | newBranch _ c _ => cases c <;> rfl

theorem leaf_canon (s : Nat) (q : Pfx w) (x : V) : Canon false (leaf s q x) := ⟨.inr (.inl rfl), trivial, trivial⟩

theorem mkChild_canon {c : Tree w V} (h : Canon false c) (s : Nat) (q : Pfx w) (x : V) (cr : Bool) :
    Canon false (mkChild s q x c cr) := by
  cases cr
  · exact ⟨.inr (.inl rfl), h, trivial⟩
  · exact ⟨.inr (.inl rfl), trivial, h⟩

theorem mkBranch_canon {c : Tree w V} (h : Canon false c) (hn : c.isNil = false) (sb : Nat) (bp : Pfx w)
    (sn : Nat) (q : Pfx w) (x : V) (pr : Bool) : Canon false (mkBranch sb bp sn q x c pr) := by
  cases pr
  · exact ⟨.inr (.inr ⟨rfl, hn⟩), leaf_canon .., h⟩
  · exact ⟨.inr (.inr ⟨hn, rfl⟩), h, leaf_canon ..⟩

theorem insert_canon {isRoot : Bool} {t : Tree w V} (h : Canon isRoot t) (q : Pfx w) (x : V) (s1 s2 : Nat) :
    Canon isRoot (insert t q x s1 s2).t := by
  induction t using child_induction generalizing isRoot with
  | nil => exact h
  | node s p v l r ih =>
    rw [insert_node]
    cases hd : dirIns p l r q with
    | reached => exact ⟨.inr (.inl rfl), h.2⟩
    | enter b => exact canon_setChild h b (ih b (h.child b)) (.inr (.inr (insert_isNil ..).trans))
    | newLeaf b => exact canon_setChild h b (leaf_canon ..) (.inr (.inr fun _ => rfl))
    | newChild b cr =>
      exact canon_setChild h b (mkChild_canon (h.child b) ..) (.inr (.inr fun _ => by cases cr <;> rfl))
    | newBranch bp b pr =>
      obtain ⟨_, _, cs, cp, cv, cl, cr, hch, _⟩ := dirIns_newBranch hd
      exact canon_setChild h b (mkBranch_canon (h.child b) (by rw [hch]; rfl) ..)
        (.inr (.inr fun _ => by cases pr <;> rfl))

theorem modifyValue_canon {isRoot : Bool} {t : Tree w V} (h : Canon isRoot t) (q : Pfx w) (f : V → V) :
    Canon isRoot (modifyValue t q f) := by
  induction t using child_induction generalizing isRoot with
  | nil => exact h
  | node s p v l r ih =>
    rw [modifyValue_node]
    cases getDir p l r q with
    | reached => exact ⟨by simpa using h.1, h.2⟩
    | enter b => exact canon_setChild h b (ih b (h.child b)) (.inr (.inr (isNil_of_skel (skel_modifyValue ..)).trans))
    | missing => exact h

section
variable {isRoot : Bool} {s : Nat} {p : Pfx w} {v : Option V} {l r : Tree w V}

theorem removeHere_canon (h : Canon isRoot (node s p v l r)) :
    Canon isRoot (removeHere s p v l r (!isRoot)).t ∧
      ((removeHere s p v l r (!isRoot)).leaf = false → (removeHere s p v l r (!isRoot)).t.isNil = false) := by
  unfold removeHere
  cases isRoot
  · -- below the root (`hasPar`) only a node with two children stays; otherwise its child, if any, takes its place
    cases l <;> cases r
    · exact ⟨trivial, nofun⟩
    · exact ⟨h.2.2, fun _ => rfl⟩
    · exact ⟨h.2.1, fun _ => rfl⟩
    · exact ⟨⟨.inr (.inr ⟨rfl, rfl⟩), h.2⟩, fun _ => rfl⟩
  · -- the root node stays, whatever its children
    cases l <;> cases r <;> exact ⟨⟨.inl rfl, h.2⟩, fun _ => rfl⟩

/-- back at the parent: a child removed as a leaf under a value-less non-root parent takes the parent
with it (the sibling, which a canonical parent has, moves up); otherwise the child is put back -/
theorem afterChild_canon (h : Canon isRoot (node s p v l r)) (b : Bool) (res : RemRes w V)
    (hres : Canon false res.t) (hnil : res.leaf = false → res.t.isNil = (child l r b).isNil) :
    Canon isRoot (afterChild s p v l r b (!isRoot) res).t ∧
      (afterChild s p v l r b (!isRoot) res).leaf = false ∧
      (afterChild s p v l r b (!isRoot) res).t.isNil = false := by
  rcases afterChild_cases s p v l r b (!isRoot) res with ⟨_, hpar, rfl, hc⟩ | ⟨hc, hc'⟩
  · cases isRoot with
    | true => cases hpar
    | false =>
      rw [hc]
      exact ⟨(h.child (!b)).weaken, rfl, by cases b; exact h.two_children.2; exact h.two_children.1⟩
  · rw [hc']
    refine ⟨canon_setChild h b hres ?_, rfl, by cases b <;> rfl⟩
    rcases isRoot with _ | _
    · rcases v with _ | _
      · exact .inr (.inr (hnil (by cases hl : res.leaf; rfl; exact absurd (by simp [hl]) hc)).trans)
      · exact .inr (.inl rfl)
    · exact .inl rfl

end

/-- The second conjunct is what the parent frame needs (`afterChild_canon`): a child that did not come back
as a removed leaf is empty iff it was, so putting it back leaves a value-less inner parent with the two
children it must have. -/
theorem remove_canon {isRoot : Bool} {t : Tree w V} (h : Canon isRoot t) (q : Pfx w) :
    Canon isRoot (remove t q (!isRoot)).t ∧
      ((remove t q (!isRoot)).leaf = false → (remove t q (!isRoot)).t.isNil = t.isNil) := by
  induction t using child_induction generalizing isRoot with
  | nil => exact ⟨trivial, fun _ => rfl⟩
  | node s p v l r ih =>
    rw [remove_node]
    cases getDir p l r q with
    | reached => exact removeHere_canon h
    | enter b =>
      have ih := @ih b false (h.child b)
      have := afterChild_canon h b _ ih.1 ih.2
      exact ⟨this.1, fun _ => this.2.2⟩
    | missing => exact ⟨h, fun _ => rfl⟩

theorem keys_node (s : Nat) (p : Pfx w) (v : Option V) (l r : Tree w V) :
    keys (node s p v l r) = (if v.isSome then [p.net] else []) ++ keys l ++ keys r := by
  simp only [keys, entries, List.map_append]
  cases v <;> simp

theorem mem_keys_under {k : List Bool} {t : Tree w V} (h : WF k t) {x : List Bool} (hx : x ∈ keys t) :
    k <+: x := by
  unfold keys at hx
  obtain ⟨e, he, rfl⟩ := List.mem_map.1 hx
  exact WF.mem_entries h he

theorem keys_ne_nil {t : Tree w V} (h : Canon false t) (hn : t.isNil = false) : keys t ≠ [] :=
  fun he => entries_ne_nil h hn (List.map_eq_nil_iff.1 he)

section
variable {k : List Bool} {s : Nat} {p : Pfx w} {v : Option V} {l r : Tree w V}

theorem keys_child (h : WF k (node s p v l r)) (b : Bool) :
    keys (child l r b) = (keys (node s p v l r)).filter (p.net ++ [b]).isPrefixOf := by
  have he : (node s p v l r).entries.filter (fun e => (p.net ++ [b]).isPrefixOf e.1.net) =
      (child l r b).entries := by
    rw [filter_node_side b fun e he => Bool.eq_false_iff.2 fun hP => List.ne_of_sides (by cases b <;> simp)
        (h.mem_child_entries (!b) he) (List.isPrefixOf_iff_prefix.1 hP) rfl,
      List.filter_false fun e he => Bool.eq_false_iff.2 fun hP =>
        List.not_snoc_prefix _ _ ((mem_own.1 he).2 ▸ List.isPrefixOf_iff_prefix.1 hP),
      List.filter_eq_self.2 fun e he => List.isPrefixOf_iff_prefix.2 (h.mem_child_entries b he)]
    rfl
  exact (congrArg (List.map _) he.symm).trans List.filter_map.symm

/-- the key of a canonical non-root node is the longest common prefix of its keys: it is one of them,
or two of them diverge right after it -/
theorem common_prefix (hwf : WF k (node s p v l r)) (hc : Canon false (node s p v l r)) {c : List Bool}
    (hall : ∀ x ∈ keys (node s p v l r), c <+: x) : c <+: p.net := by
  rcases hc.1 with h1 | h1 | h1
  · cases h1
  · exact hall _ (by rw [keys_node]; simp [h1])
  · obtain ⟨a, ha⟩ := List.exists_mem_of_ne_nil _ (keys_ne_nil hc.2.1 h1.1)
    obtain ⟨b, hb⟩ := List.exists_mem_of_ne_nil _ (keys_ne_nil hc.2.2 h1.2)
    have ha' : p.net ++ [false] <+: a := mem_keys_under hwf.2.1 ha
    have hb' : p.net ++ [true] <+: b := mem_keys_under hwf.2.2 hb
    have hca : c <+: a := hall a (by rw [keys_node]; simp [ha])
    have hcb : c <+: b := hall b (by rw [keys_node]; simp [hb])
    refine List.prefix_of_prefix_length_le hca ((List.prefix_append _ _).trans ha')
      (Nat.le_of_not_lt fun hlt => ?_)
    have hlen (x : Bool) : (p.net ++ [x]).length ≤ c.length := by
      rw [List.length_append]; exact hlt
    exact List.ne_of_sides Bool.false_ne_true (List.prefix_of_prefix_length_le ha' hca (hlen _))
      (List.prefix_of_prefix_length_le hb' hcb (hlen _)) rfl

end

theorem shape_unique {k : List Bool} {b : Bool} {t1 : Tree w V} {V' : Type} {t2 : Tree w V'}
    (h1 : WF k t1) (h2 : WF k t2) (c1 : Canon b t1) (c2 : Canon b t2)
    (hroot : b = true → (∃ p, t1.pfx? = some p ∧ p.net = k) ∧ (∃ p, t2.pfx? = some p ∧ p.net = k))
    (hk : keys t1 = keys t2) : shape t1 = shape t2 := by
  induction t1 generalizing k b t2 with
  | nil =>
    cases t2 with
    | nil => rfl
    | node s2 p2 v2 l2 r2 =>
      cases b
      · exact absurd hk.symm (keys_ne_nil c2 rfl)
      · exact (hroot rfl).1.elim fun _ hp => nomatch hp.1
  | node s1 p1 v1 l1 r1 ihl ihr =>
    cases t2 with
    | nil =>
      cases b
      · exact absurd hk (keys_ne_nil c1 rfl)
      · exact (hroot rfl).2.elim fun _ hp => nomatch hp.1
    | node s2 p2 v2 l2 r2 =>
      -- the root key is the longest common prefix of the keys (or given, at the root of the map)
      have hp : p1.net = p2.net := by
        cases b
        · exact (common_prefix h2 c2 fun y hy => mem_keys_under h1.self (hk ▸ hy)).eq_of_length_le
            (common_prefix h1 c1 fun y hy => mem_keys_under h2.self (hk ▸ hy)).length_le
        · obtain ⟨⟨q1, hq1, e1⟩, ⟨q2, hq2, e2⟩⟩ := hroot rfl
          cases hq1; cases hq2
          rw [e1, e2]
      -- hence so are the keys below either child, and whether the root key is among the keys
      have hc : ∀ c, keys (child l1 r1 c) = keys (child l2 r2 c) := fun c => by
        rw [keys_child h1 c, keys_child h2 c, hk, hp]
      have hl : keys l1 = keys l2 := hc false
      have hr : keys r1 = keys r2 := hc true
      have hv : v1.isSome = v2.isSome := by
        rw [keys_node, keys_node, hl, hr, hp] at hk
        have := List.append_cancel_right (List.append_cancel_right hk)
        cases v1 <;> cases v2
        · rfl
        · cases this
        · cases this
        · rfl
      have sl := ihl (k := p1.net ++ [false]) (b := false) h1.2.1 (hp ▸ h2.2.1) c1.2.1 c2.2.1 (fun h => by cases h) hl
      have sr := ihr (k := p1.net ++ [true]) (b := false) h1.2.2 (hp ▸ h2.2.2) c1.2.2 c2.2.2 (fun h => by cases h) hr
      rw [shape, shape, hp, hv, sl, sr]

end Tree

namespace PMap
variable {w : Nat} {V : Type}
open Tree

def Canonical (m : PMap w V) : Prop := Canon true m.root

theorem empty_canonical : (empty : PMap w V).Canonical := ⟨.inl rfl, trivial, trivial⟩

theorem insert_canonical {m : PMap w V} (h : m.Canonical) (q : Pfx w) (x : V) : (m.insert q x).1.Canonical :=
  insert_canon (t := m.root) h q x _ _

theorem remove_canonical {m : PMap w V} (h : m.Canonical) (q : Pfx w) : (m.remove q).1.Canonical :=
  (remove_canon (isRoot := true) (t := m.root) h q).1

theorem modify_canonical {m : PMap w V} (h : m.Canonical) (q : Pfx w) (f : V → V) : (m.modify q f).Canonical :=
  modifyValue_canon (t := m.root) h q f

theorem orInsert_canonical {m : PMap w V} (h : m.Canonical) (q : Pfx w) (x : V) : (m.orInsert q x).1.Canonical := by
  rw [orInsert_fst]; split
  · exact h
  · exact insert_canonical h q x

theorem retain_canonical {m : PMap w V} (h : m.Canonical) (f : Pfx w → V → Bool) (stop : Option Nat := none) :
    (m.retain f stop).Canonical :=
  retain_induction (P := Canonical) (fun _ q hm => remove_canonical hm q) h f stop

theorem collect_canonical (xs : List (Pfx w × V)) : (collect xs).Canonical :=
  List.foldlRecOn (motive := Canonical) xs _ empty_canonical fun _ hm e _ => insert_canonical hm e.1 e.2

theorem shape_eq_of_keys {V' : Type} {m1 : PMap w V} {m2 : PMap w V'} (h1 : m1.TreeWF) (h2 : m2.TreeWF)
    (c1 : m1.Canonical) (c2 : m2.Canonical)
    (hk : m1.entries.map (·.1.net) = m2.entries.map (·.1.net)) : shape m1.root = shape m2.root := by
  refine shape_unique h1.wf h2.wf c1 c2 (fun _ => ?_) hk
  obtain ⟨p1, v1, l1, r1, e1, n1⟩ := h1.root
  obtain ⟨p2, v2, l2, r2, e2, n2⟩ := h2.root
  exact ⟨⟨p1, by rw [e1]; rfl, n1⟩, ⟨p2, by rw [e2]; rfl, n2⟩⟩

end PMap
