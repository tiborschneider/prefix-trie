import PT.SetOps
/-!
# The generic explicit-stack machine against a denotation

If every stack entry `e` has a denotation `sem e` that unfolds as "what the step yields, followed
by the denotations of what it pushes, in pop order", and every step consumes weight, then running the
machine with enough fuel yields the concatenated denotations of the stack (`run_unfolds`).

The four simultaneous traversals instantiate this in one way: an entry denotes the specification of
`PT/SetSpec` applied to the entry lists of its two subtrees and weighs their nodes; the invariant says how
the two roots lie to each other; a step is the specification's equation at such a pair of nodes
(`*_both`, `*_above`, `*_below`), and what it pushes is read off `next_indices*` through `cmpPfx`, `firstG`.
-/
namespace Machine
variable {E I J : Type}

def wt (μ : E → Nat) (st : List E) : Nat := (st.map (fun e => μ e + 1)).sum

theorem wt_nil (μ : E → Nat) : wt μ [] = 0 := rfl

/-- total weight of a stack, each entry weighing `ν e ≥ 1`: the measure `run_unfolds` runs on -/
def wt1 (ν : E → Nat) (st : List E) : Nat := (st.map ν).sum

theorem wt1_nil (ν : E → Nat) : wt1 ν [] = 0 := rfl
theorem wt1_cons (ν : E → Nat) (e : E) (st : List E) : wt1 ν (e :: st) = ν e + wt1 ν st := by simp [wt1]
theorem wt1_append (ν : E → Nat) (a b : List E) : wt1 ν (a ++ b) = wt1 ν a + wt1 ν b := by simp [wt1]
theorem wt1_reverse (ν : E → Nat) (a : List E) : wt1 ν a.reverse = wt1 ν a := by
  induction a with
  | nil => rfl
  | cons x xs ih => simp [wt1_cons, wt1_append, wt1_nil, ih]; omega

variable {Ok : E → Prop} {sem : E → List J} {ν : E → Nat}

/-- `xs` (in push order) are acceptable entries, denote `out` when popped, and weigh at most `n` -/
structure Pushes (Ok : E → Prop) (sem : E → List J) (ν : E → Nat) (xs : List E) (out : List J) (n : Nat) : Prop where
  ok : ∀ c ∈ xs, Ok c
  sem : xs.reverse.flatMap sem = out
  wt : wt1 ν xs ≤ n

theorem Pushes.nil : Pushes Ok sem ν [] [] 0 := ⟨by simp, rfl, Nat.le_refl _⟩

theorem Pushes.single {e : E} (h : Ok e) : Pushes Ok sem ν [e] (sem e) (ν e) :=
  ⟨by simpa using h, by simp, by simp [wt1]⟩

/-- what is pushed last is popped first -/
theorem Pushes.append {xs ys : List E} {o1 o2 : List J} {n1 n2 : Nat}
    (h1 : Pushes Ok sem ν xs o1 n1) (h2 : Pushes Ok sem ν ys o2 n2) :
    Pushes Ok sem ν (xs ++ ys) (o2 ++ o1) (n1 + n2) :=
  ⟨fun c hc => (List.mem_append.1 hc).elim (h1.ok c) (h2.ok c),
   by rw [List.reverse_append, List.flatMap_append, h1.sem, h2.sem],
   by rw [wt1_append]; exact Nat.add_le_add h1.wt h2.wt⟩

theorem Pushes.cast {xs : List E} {o o' : List J} {n n' : Nat} (h : Pushes Ok sem ν xs o n)
    (ho : o = o') (hn : n ≤ n') : Pushes Ok sem ν xs o' n' := ⟨h.ok, ho ▸ h.sem, Nat.le_trans h.wt hn⟩

/-- the result `r` of a step unfolds the denotation `d` of the popped entry, of weight `m`; the items
are observed through `g` (items `g` maps to `none` are dropped) -/
structure Unfolds (Ok : E → Prop) (sem : E → List J) (ν : E → Nat) (g : I → Option J)
    (r : Option I × List E) (d : List J) (m : Nat) : Prop where
  ok : ∀ c ∈ r.2, Ok c
  sem : d = (r.1.bind g).toList ++ r.2.reverse.flatMap sem
  wt : wt1 ν r.2 + 1 ≤ m

theorem Pushes.unfolds {g : I → Option J} {xs : List E} {out d : List J} {n m : Nat} {i : Option I}
    (h : Pushes Ok sem ν xs out n) (hd : d = (i.bind g).toList ++ out) (hn : n + 1 ≤ m) :
    Unfolds Ok sem ν g (i, xs) d m := ⟨h.ok, by rw [hd, h.sem], Nat.le_trans (Nat.succ_le_succ h.wt) hn⟩

theorem Pushes.unfolds' {xs : List E} {out d : List J} {n m : Nat} {i : Option J}
    (h : Pushes Ok sem ν xs out n) (hd : d = i.toList ++ out) (hn : n + 1 ≤ m) :
    Unfolds Ok sem ν some (i, xs) d m := h.unfolds (by cases i <;> exact hd) hn

theorem run_eq_filterMap (step : E → Option I × List E) (g : I → Option J)
    (hstep : ∀ e, Ok e → Unfolds Ok sem ν g (step e) (sem e) (ν e)) :
    ∀ (fuel : Nat) (st : List E), (∀ e ∈ st, Ok e) → wt1 ν st ≤ fuel →
      (runMachine step fuel st).filterMap g = st.flatMap sem := by
  intro fuel
  induction fuel with
  | zero =>
    intro st hok hw
    cases st with
    | nil => rfl
    | cons e es =>
      have := (hstep e (hok e (List.mem_cons_self ..))).wt
      simp [wt1_cons] at hw; omega
  | succ f ih =>
    intro st hok hw
    cases st with
    | nil => rfl
    | cons e es =>
      obtain ⟨h1, h2, h3⟩ := hstep e (hok e (List.mem_cons_self ..))
      have hok' : ∀ c ∈ (step e).2.reverse ++ es, Ok c := fun c hc =>
        (List.mem_append.1 hc).elim (fun hc => h1 c (List.mem_reverse.1 hc)) (fun hc => hok c (List.mem_cons_of_mem _ hc))
      have hw' : wt1 ν ((step e).2.reverse ++ es) ≤ f := by
        rw [wt1_append, wt1_reverse]; rw [wt1_cons] at hw; omega
      have := ih _ hok' hw'
      simp only [runMachine, List.flatMap_cons]
      rw [h2]
      cases hs : (step e).1 with
      | none => simp [this, List.flatMap_append]
      | some i =>
        simp only [List.filterMap_cons, Option.bind_some]
        cases hg : g i <;> simp [this, List.flatMap_append]

theorem run_unfolds (step : E → Option I × List E) (g : I → Option J)
    (hstep : ∀ e, Ok e → Unfolds Ok sem ν g (step e) (sem e) (ν e))
    {st : List E} {out : List J} {n fuel : Nat} (h : Pushes Ok sem ν st out n) (hf : n ≤ fuel) :
    (runMachine step fuel st.reverse).filterMap g = out := by
  rw [run_eq_filterMap step g hstep fuel st.reverse (fun e he => h.ok e (List.mem_reverse.1 he))
    (by rw [wt1_reverse]; exact Nat.le_trans h.wt hf)]
  exact h.sem

end Machine
