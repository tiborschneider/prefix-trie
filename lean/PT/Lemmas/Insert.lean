import PT.Lemmas.Get
/-!
# `insert` (and the placement code of `VacantEntry::_insert`)

Insertion is a descent over `dirIns`; each of the three placements puts, where a child was, a subtree
holding `(q, x)` and that child.
-/
namespace Tree
variable {w : Nat} {V : Type}
open Pfx

theorem insert_node (s : Nat) (p : Pfx w) (v : Option V) (l r : Tree w V) (q : Pfx w) (x : V) (s1 s2 : Nat) :
    insert (node s p v l r) q x s1 s2 = (match dirIns p l r q with
      | .reached => ⟨node s q (some x) l r, v, 0⟩
      | .enter b => (insert (child l r b) q x s1 s2).mapT (setChild s p v l r b)
      | .newLeaf b => ⟨setChild s p v l r b (leaf s1 q x), none, 1⟩
      | .newChild b cr => ⟨setChild s p v l r b (mkChild s1 q x (child l r b) cr), none, 1⟩
      | .newBranch bp b pr => ⟨setChild s p v l r b (mkBranch s1 bp s2 q x (child l r b) pr), none, 2⟩) := by
  rw [insert]
  cases dirIns p l r q with
  | enter b => cases b <;> rfl
  | _ => rfl

theorem leaf_wf {k : List Bool} (s : Nat) (q : Pfx w) (x : V) (h : k <+: q.net) : WF k (leaf s q x) :=
  ⟨h, trivial, trivial⟩

theorem leaf_entries (s : Nat) (q : Pfx w) (x : V) : (leaf s q x : Tree w V).entries = [(q, x)] := rfl

theorem mkChild_wf {k : List Bool} {s1 cs : Nat} {q cp : Pfx w} {x : V} {cv : Option V} {cl cr : Tree w V}
    (hq : k <+: q.net) (hcw : WF k (node cs cp cv cl cr)) (h1 : ¬ cp.net <+: q.net) (h2 : q.net <+: cp.net) :
    WF k (mkChild s1 q x (node cs cp cv cl cr) (toRight q cp)) := by
  have hs := side_prefix h2 (fun e => h1 (e ▸ List.prefix_refl _))
  unfold mkChild
  generalize toRight q cp = c at hs ⊢
  cases c
  · exact ⟨hq, ⟨hs, hcw.2.1, hcw.2.2⟩, trivial⟩
  · exact ⟨hq, trivial, ⟨hs, hcw.2.1, hcw.2.2⟩⟩

theorem mkBranch_wf {k : List Bool} {s1 s2 cs : Nat} {q cp : Pfx w} {x : V} {cv : Option V} {cl cr : Tree w V}
    (hq : k <+: q.net) (hcw : WF k (node cs cp cv cl cr)) (h1 : ¬ cp.net <+: q.net) (h2 : ¬ q.net <+: cp.net) :
    WF k (mkBranch s1 (q.lcp cp) s2 q x (node cs cp cv cl cr) (toRight (q.lcp cp) q)) := by
  have f1 := lcp_max q cp k hq hcw.1
  obtain ⟨f2, f3⟩ := lcp_sides h2 h1
  unfold mkBranch
  generalize toRight (q.lcp cp) q = c at f2 f3 ⊢
  cases c
  · exact ⟨f1, leaf_wf _ _ _ f2, ⟨f3, hcw.2.1, hcw.2.2⟩⟩
  · exact ⟨f1, ⟨f3, hcw.2.1, hcw.2.2⟩, leaf_wf _ _ _ f2⟩

theorem insert_wf {k : List Bool} {t : Tree w V} (hwf : WF k t) (q : Pfx w) (x : V) (s1 s2 : Nat)
    (hc : RootCovers t q) : WF k (insert t q x s1 s2).t := by
  induction t using child_induction generalizing k with
  | nil => trivial
  | node s p v l r ih =>
    have hp : p.net <+: q.net := hc p rfl
    have hcw := fun b => hwf.of_child b
    rw [insert_node]
    match dirCase p l r q with
    | .reached (hi := hi) (hpq := hpq) .. => rw [hi]; exact ⟨hpq ▸ hwf.1, hpq ▸ hwf.2.1, hpq ▸ hwf.2.2⟩
    | .enter (b := b) (hi := hi) (hch := hch) (hcq := hcq) .. =>
      rw [hi]; exact hwf.setChild (ih b (hcw b) (hch ▸ .node hcq))
    | .newLeaf (hi := hi) (hne := hne) (hb := hb) .. =>
      rw [hi]; exact hwf.setChild (leaf_wf _ _ _ (hb ▸ side_prefix hp hne))
    | .newChild (b := b) (hi := hi) (hne := hne) (hb := hb) (hch := hch) (h1 := h1) (h2 := h2) .. =>
      simp only [hi, hch]; exact hwf.setChild (mkChild_wf (hb ▸ side_prefix hp hne) (hch ▸ hcw b) h1 h2)
    | .newBranch (b := b) (hi := hi) (hne := hne) (hb := hb) (hch := hch) (h1 := h1) (h2 := h2) .. =>
      simp only [hi, hch]; exact hwf.setChild (mkBranch_wf (hb ▸ side_prefix hp hne) (hch ▸ hcw b) h1 h2)

theorem mem_mkChild {s1 : Nat} {q : Pfx w} {x : V} {c : Tree w V} {cr : Bool} {e : Pfx w × V} :
    e ∈ (mkChild s1 q x c cr).entries ↔ e = (q, x) ∨ e ∈ c.entries := by
  unfold mkChild
  cases cr <;> simp [entries]

theorem mem_mkBranch {sb : Nat} {b : Pfx w} {sn : Nat} {q : Pfx w} {x : V} {c : Tree w V} {pr : Bool}
    {e : Pfx w × V} :
    e ∈ (mkBranch sb b sn q x c pr).entries ↔ e = (q, x) ∨ e ∈ c.entries := by
  unfold mkBranch
  cases pr <;> simp [entries, leaf, or_comm]

theorem insert_mem_filter {k : List Bool} {t : Tree w V} (hwf : WF k t) (q : Pfx w) (x : V) (s1 s2 : Nat)
    (hnn : t ≠ nil) (e : Pfx w × V) :
    e ∈ (insert t q x s1 s2).t.entries ↔ e = (q, x) ∨ e ∈ t.entries.filter (fun e => !e.1.eqv q) := by
  induction t using child_induction generalizing k e with
  | nil => exact absurd rfl hnn
  | node s p v l r ih =>
    rw [insert_node]
    match dirCase p l r q with
    | .reached (hi := hi) (hg := hg) (hpq := hpq) .. =>
      rw [hi, mem_entries_node, filter_not_node_own (hwf.eqv_reached hg) (own_eqv hpq), List.mem_append]
      simp [own]
    | .enter (b := b) (hi := hi) (hg := hg) (hch := hch) .. =>
      rw [hi]
      obtain ⟨hown, hoth⟩ := hwf.eqv_enter hg
      exact mem_setChild_insert hown hoth (ih b (hwf.of_child b) (by rw [hch]; simp)) e
    -- the three placements: the key is absent, so the filter keeps everything, and the placed subtree
    -- holds `(q, x)` and the child it replaces
    | .newLeaf (hi := hi) (hg := hg) (hch := hch) .. =>
      rw [hi, List.filter_not_false (hwf.eqv_missing hg)]
      exact mem_setChild_add (fun e => by rw [hch]; simp [leaf_entries, entries]) e
    | .newChild (hi := hi) (hg := hg) .. =>
      rw [hi, List.filter_not_false (hwf.eqv_missing hg)]
      exact mem_setChild_add (fun _ => mem_mkChild) e
    | .newBranch (hi := hi) (hg := hg) .. =>
      rw [hi, List.filter_not_false (hwf.eqv_missing hg)]
      exact mem_setChild_add (fun _ => mem_mkBranch) e

theorem insert_mem {k : List Bool} {t : Tree w V} (hwf : WF k t) (q : Pfx w) (x : V) (s1 s2 : Nat)
    (hnn : t ≠ nil) (e : Pfx w × V) :
    e ∈ (insert t q x s1 s2).t.entries ↔ e = (q, x) ∨ (e ∈ t.entries ∧ e.1.net ≠ q.net) := by
  rw [insert_mem_filter hwf q x s1 s2 hnn, filter_key_iff]

theorem insert_old (t : Tree w V) (q : Pfx w) (x : V) (s1 s2 : Nat) :
    (insert t q x s1 s2).old = get t q := by
  induction t using child_induction with
  | nil => rfl
  | node s p v l r ih =>
    rw [insert_node, get, findNode_node, getDir_eq_of_dirIns]
    cases dirIns p l r q with
    | enter b => exact ih b
    | _ => rfl

end Tree
