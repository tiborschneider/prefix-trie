import PT.Lemmas.RetainFold
import PT.Retain
/-!
# The recursion `_retain` (`Tree.retainF`) computes the post-order fold of `_remove_node` (`PMap.retain`)

Two steps: folding calls that live in one child of a node is folding them in the child and applying the
collapse rule once (`foldFrom_lift`); then the recursion is followed branch by branch (`retainF_ok`).
-/
namespace Tree
variable {w : Nat} {V : Type}

variable {f : Pfx w → V → Bool} {hp : Bool}

theorem remove_of_mem_child {k : List Bool} {s : Nat} {p : Pfx w} {v : Option V} {l r x : Tree w V} {c : Bool}
    (hwf : WF k (setChild s p v l r c x)) {q : Pfx w} {e : Pfx w × V}
    (he : e ∈ x.entries) (hq : e.1.net = q.net) :
    remove (setChild s p v l r c x) q hp = afterChild s p v l r c hp (remove x q true) := by
  cases c
  · rw [setChild_false, remove_node, getDir_of_covering (b := false) hwf he (hq ▸ List.prefix_refl _)]; rfl
  · rw [setChild_true, remove_node, getDir_of_covering (b := true) hwf he (hq ▸ List.prefix_refl _)]; rfl

theorem remove_of_key {s : Nat} {p : Pfx w} {v : Option V} {l r : Tree w V} {q : Pfx w} (hq : p.net = q.net) :
    remove (node s p v l r) q hp = removeHere s p v l r hp := by
  rw [remove_node, getDir_of_net_eq hq]

/-- what the parent frame makes of its child's result: `afterChild` on accumulators -/
def liftC (s : Nat) (p : Pfx w) (v : Option V) (l r : Tree w V) (c hp : Bool) (a : FoldAcc w V) : FoldAcc w V :=
  if a.leaf && hp && v.isNone then ⟨child l r (!c), false, a.freed ++ [s], a.removed⟩
  else ⟨setChild s p v l r c a.t, false, a.freed, a.removed⟩

variable {k : List Bool} {s : Nat} {p : Pfx w} {v : Option V} {l r : Tree w V} {c : Bool}

theorem liftC_pos (a : FoldAcc w V) (h : (a.leaf && hp && v.isNone) = true) :
    liftC s p v l r c hp a = ⟨child l r (!c), false, a.freed ++ [s], a.removed⟩ := if_pos h

theorem liftC_neg (a : FoldAcc w V) (h : ¬ (a.leaf && hp && v.isNone) = true) :
    liftC s p v l r c hp a = ⟨setChild s p v l r c a.t, false, a.freed, a.removed⟩ := if_neg h

theorem foldStep_lift {a : FoldAcc w V} (ha : a.leaf = false) (hwf : WF k (setChild s p v l r c a.t))
    {e e' : Pfx w × V} (he : e' ∈ a.t.entries) (hk : e'.1.net = e.1.net) :
    foldStep f hp (liftC s p v l r c hp a) e = liftC s p v l r c hp (foldStep f true a e) := by
  rw [liftC_neg a (by rw [ha]; exact Bool.false_ne_true)]
  unfold foldStep
  by_cases hf : f e.1 e.2 = true
  · rw [if_pos hf, if_pos hf]; exact (liftC_neg { a with leaf := false } Bool.false_ne_true).symm
  · rw [if_neg hf, if_neg hf]
    simp only [remove_of_mem_child hwf he hk, afterChild, liftC]
    by_cases hcol : ((remove a.t e.1 true).leaf && hp && v.isNone) = true
    · rw [if_pos hcol, if_pos hcol, List.append_assoc]
    · rw [if_neg hcol, if_neg hcol]

/-- **lifting.**  The node is `setChild s p v l r c a.t`: only the sibling `child l r (!c)` of `l r` matters,
the `c`-side is overwritten.  The calls `cs` all have their key in `a.t`. -/
theorem foldFrom_lift (cs : List (Pfx w × V)) {a : FoldAcc w V} (ha : a.leaf = true → a.t = nil)
    (hwf : WF k (node s p v l r)) (hwa : WF (p.net ++ [c]) a.t)
    (hsub : ∀ e ∈ cs, ∃ e' ∈ a.t.entries, e'.1.net = e.1.net)
    (hnd : cs.Pairwise (fun x y => x.1.net ≠ y.1.net)) :
    foldFrom f hp (liftC s p v l r c hp a) cs = liftC s p v l r c hp (foldFrom f true a cs) := by
  induction cs generalizing a with
  | nil => rfl
  | cons e cs ih =>
    obtain ⟨e', he', hk'⟩ := hsub e (List.mem_cons_self ..)
    -- the child still holds the key of `e`, so it has not been removed as a leaf
    have hl : a.leaf = false := by
      cases h : a.leaf with
      | false => rfl
      | true => rw [ha h] at he'; cases he'
    rw [foldFrom_cons, foldFrom_cons, foldStep_lift hl (hwf.setChild hwa) he' hk']
    obtain ⟨hne, hnd'⟩ := List.pairwise_cons.1 hnd
    have hsub' := fun x hx => hsub x (List.mem_cons_of_mem _ hx)
    unfold foldStep at ih ⊢
    split
    · -- `e` is kept: the child is unchanged
      exact ih (fun h => nomatch h) hwa hsub' hnd'
    · -- `e` is rejected: the later calls have other keys, so they are still in the child after `remove`
      refine ih (fun h => remove_leaf h) (remove_wf hwa e.1 true) (fun x hx => ?_) hnd'
      obtain ⟨x', hx', hkx⟩ := hsub' x hx
      exact ⟨x', (remove_mem hwa e.1 true x').2 ⟨hx', fun h => hne x hx (by rw [← hkx, h])⟩, hkx⟩

theorem foldF_lift (hwf : WF k (node s p v l r)) (c : Bool) (n : Nat) :
    foldF f hp ((child l r c).postorder.take n) (node s p v l r) =
      liftC s p v l r c hp (foldF f true ((child l r c).postorder.take n) (child l r c)) := by
  have e : node s p v l r = setChild s p v l r c (child l r c) := by cases c <;> rfl
  have := foldFrom_lift (f := f) (hp := hp) ((child l r c).postorder.take n) (a := ⟨child l r c, false, [], 0⟩)
    (fun h => nomatch h) hwf (hwf.of_child c)
    (fun x hx => ⟨x, (mem_postorder_iff _ x).1 (List.mem_of_mem_take hx), rfl⟩)
    ((postorder_keys_distinct (hwf.of_child c)).sublist (List.take_sublist ..))
  exact (show foldF f hp _ (node s p v l r) = foldFrom f hp (liftC s p v l r c hp _) _ by rw [e]; rfl).trans this

def RetRes.acc (r : RetRes w V) : FoldAcc w V := ⟨r.t, r.leaf, r.freed, r.removed⟩

/-- the fold over a node's calls, by phases: the left subtree's calls (lifted), the right subtree's, its own -/
theorem foldF_node (hwf : WF k (node s p v l r)) (n : Nat) :
    foldF f hp ((node s p v l r).postorder.take n) (node s p v l r) =
      foldFrom f hp (foldFrom f hp (liftC s p v l r false hp (foldF f true (l.postorder.take n) l))
        (r.postorder.take (n - l.postorder.length))) ((own p v).take (n - l.postorder.length - r.postorder.length)) := by
  rw [postorder_node, List.take_append, List.take_append, foldF_append, foldF_append,
    List.length_append, Nat.sub_add_eq]
  exact congrArg (fun a => foldFrom f hp (foldFrom f hp a _) _) (foldF_lift hwf false n)

variable (f hp) in
/-- what `_retain`, allowed `n` calls, returns for the subtree `t` -/
structure RetOk (t : Tree w V) (n : Nat) (R : RetRes w V) : Prop where
  acc : R.acc = foldF f hp (t.postorder.take n) t
  budget : R.budget = n - t.postorder.length
  aborted : R.aborted = true ↔ n < t.postorder.length
  leaf : R.aborted = true → R.leaf = false

theorem postorder_length_node (s : Nat) (p : Pfx w) (v : Option V) (l r : Tree w V) :
    (node s p v l r).postorder.length = l.postorder.length + r.postorder.length + (own p v).length := by
  rw [postorder_node, List.length_append, List.length_append]

/-- a node whose subtrees are both through and whose left subtree did not take it away: what is left to
show about the result `R` of the frame is what its own call does -/
theorem RetOk.node {n : Nat} {rl rr R : RetRes w V} (hwf : WF k (node s p v l r))
    (hl : RetOk f true l n rl) (hr : RetOk f true r rl.budget rr) (hab : ¬ rl.aborted = true)
    (hcol : ¬ (rl.leaf && hp && v.isNone) = true)
    (acc : R.acc = foldFrom f hp (FoldAcc.seq ⟨node s p v rl.t r, false, rl.freed, rl.removed⟩
      (liftC s p v rl.t r true hp rr.acc)) ((own p v).take rr.budget))
    (budget : R.budget = rr.budget - (own p v).length)
    (aborted : R.aborted = true ↔ rr.aborted = true ∨ rr.budget < (own p v).length)
    (leaf : R.aborted = true → R.leaf = false) : RetOk f hp (node s p v l r) n R := by
  have : ¬ n < l.postorder.length := fun h => hab (hl.aborted.2 h)
  refine ⟨?_, ?_, ?_, leaf⟩
  · have hwl : WF k (Tree.node s p v rl.t r) :=
      ⟨hwf.1, (show rl.t = _ from congrArg FoldAcc.t hl.acc) ▸ foldF_wf (hwf.of_child false) _, hwf.of_child true⟩
    rw [acc, hr.acc, hr.budget, hl.budget, foldF_node hwf n, ← hl.acc, liftC_neg rl.acc hcol]
    rw [foldFrom_seq]
    exact (congrArg (fun a => foldFrom f hp (FoldAcc.seq _ a) _) (foldF_lift hwl true _)).symm
  · rw [budget, postorder_length_node, hr.budget, hl.budget, Nat.sub_add_eq, Nat.sub_add_eq]
  · rw [aborted, postorder_length_node, hr.aborted, hr.budget, hl.budget]; omega

theorem retainF_ok {t : Tree w V} (hwf : WF k t) (hp : Bool) (n : Nat) : RetOk f hp t n (retainF f t hp n) := by
  -- The induction hypotheses (unnamed by `fun_induction`: `rename_i`) speak of `retainF f l true n`, the
  -- branches of the let-variable `rl` bound to it: `have hl : RetOk f true l n rl := ihl …` states them about
  -- `rl`.  In every branch `rl`, `rr` are what `_retain` returned for the left and the right child, `hab`,
  -- `habr` say whether they aborted, `hcol`, `hcolr` whether they took this node along.
  fun_induction retainF f t hp n generalizing k with
  | case1 hp n => -- no node
    exact ⟨by simp [RetRes.acc, postorder, foldF, foldFrom], rfl, by simp [postorder], nofun⟩
  | case2 s p v l r hp n rl hab => -- the predicate panicked in the left subtree
    rename_i ihl
    have hl : RetOk f true l n rl := ihl (hwf.of_child false)
    have h1 := hl.aborted.1 hab
    have h0 : n - l.postorder.length = 0 := Nat.sub_eq_zero_of_le (Nat.le_of_lt h1)
    have hle : l.postorder.length ≤ (node s p v l r).postorder.length := by
      rw [postorder_length_node, Nat.add_assoc]; exact Nat.le_add_right ..
    refine ⟨?_, ?_, ⟨fun _ => Nat.lt_of_lt_of_le h1 hle, fun _ => rfl⟩, fun _ => rfl⟩
    · rw [foldF_node hwf, ← hl.acc, h0, Nat.zero_sub, List.take_zero, List.take_zero,
        liftC_neg rl.acc (by rw [show rl.acc.leaf = false from hl.leaf hab]; exact Bool.false_ne_true)]
      rfl
    · exact (hl.budget.trans h0).trans (Nat.sub_eq_zero_of_le (Nat.le_trans (Nat.le_of_lt h1) hle)).symm
  | case3 s p v l r hp n rl hab hcol rr =>
    -- the left child went as a leaf and took this value-less node along: the right child stands here
    rename_i ihl ihr
    have hl : RetOk f true l n rl := ihl (hwf.of_child false)
    have hr : RetOk f hp r rl.budget rr := ihr (WF.up hwf.1 (hwf.of_child true))
    have h1 : l.postorder.length ≤ n := Nat.le_of_not_lt fun h => hab (hl.aborted.2 h)
    have hv : v = none := Option.isNone_iff_eq_none.1 (Bool.and_eq_true _ _ ▸ hcol).2
    subst hv
    have hlen : (node s p none l r).postorder.length = l.postorder.length + r.postorder.length :=
      postorder_length_node ..
    refine ⟨?_, ?_, ?_, hr.leaf⟩
    · rw [foldF_node hwf, ← hl.acc, ← hl.budget, liftC_pos rl.acc hcol, foldFrom_seq,
        show own p (none : Option V) = [] from rfl, List.take_nil]
      show _ = foldFrom f hp (FoldAcc.seq _ (foldF f hp (r.postorder.take rl.budget) r)) []
      rw [← hr.acc]; rfl
    · rw [hlen, Nat.sub_add_eq, ← hl.budget]; exact hr.budget
    · rw [hlen]; exact hr.aborted.trans (hl.budget ▸ Nat.sub_lt_iff_lt_add' h1)
  | case4 s p v l r hp n rl hab hcol rr habr => -- the predicate panicked in the right subtree
    rename_i ihl ihr
    have hr : RetOk f true r rl.budget rr := ihr (hwf.of_child true)
    have h0 : rr.budget = 0 := by have := hr.aborted.1 habr; have := hr.budget; omega
    refine .node hwf (rl := rl) (rr := rr) (ihl (hwf.of_child false)) hr hab hcol
      (acc := ?_) (budget := by rw [h0, Nat.zero_sub])
      (aborted := ⟨fun _ => .inl habr, fun _ => rfl⟩) (leaf := fun _ => rfl)
    rw [h0, List.take_zero, liftC_neg rr.acc (by simp [RetRes.acc, hr.leaf habr])]; rfl
  | case5 s p v l r hp n rl hab hcol rr habr hcolr =>
    -- the right child went as a leaf and took this node along: the left child stands here
    rename_i ihl ihr
    have hv : v = none := Option.isNone_iff_eq_none.1 (Bool.and_eq_true _ _ ▸ hcolr).2
    subst hv
    refine .node hwf (rl := rl) (rr := rr) (ihl (hwf.of_child false)) (ihr (hwf.of_child true)) hab hcol
      (acc := ?_) (budget := rfl)
      (aborted := ⟨nofun, fun h => h.elim (absurd · habr) (absurd · (Nat.not_lt_zero _))⟩) (leaf := nofun)
    rw [liftC_pos rr.acc hcolr]; simp [own, foldFrom, FoldAcc.seq, RetRes.acc]
  | case6 s p l r hp n rl hab rr habr hcol hcolr => -- no value here: no call of the predicate
    rename_i ihl ihr
    refine .node hwf (rl := rl) (rr := rr) (ihl (hwf.of_child false)) (ihr (hwf.of_child true)) hab hcol
      (acc := ?_) (budget := rfl)
      (aborted := ⟨nofun, fun h => h.elim (absurd · habr) (absurd · (Nat.not_lt_zero _))⟩) (leaf := nofun)
    rw [liftC_neg rr.acc hcolr]; simp [own, foldFrom, FoldAcc.seq, RetRes.acc]
  | case7 s p l r hp n rl hab rr habr x hb hcol hcolr => -- the predicate panics at this node's own call
    rename_i ihl ihr
    refine .node hwf (rl := rl) (rr := rr) (ihl (hwf.of_child false)) (ihr (hwf.of_child true)) hab hcol
      (acc := ?_) (budget := by rw [hb]; rfl)
      (aborted := ⟨fun _ => .inr (hb ▸ Nat.zero_lt_one), fun _ => rfl⟩) (leaf := fun _ => rfl)
    rw [liftC_neg rr.acc hcolr, hb, List.take_zero]; rfl
  | case8 s p l r hp n rl hab rr habr x b hb hf hcol hcolr => -- budget `b + 1` left: the entry is kept
    rename_i ihl ihr
    have hown : ¬ rr.budget < (own p (some x)).length := by rw [hb]; exact Nat.not_succ_le_zero _ ∘ Nat.le_of_succ_le_succ
    refine .node hwf (rl := rl) (rr := rr) (ihl (hwf.of_child false)) (ihr (hwf.of_child true)) hab hcol
      (acc := ?_) (budget := by rw [hb]; rfl)
      (aborted := ⟨nofun, fun h => h.elim (absurd · habr) (absurd · hown)⟩) (leaf := nofun)
    rw [liftC_neg rr.acc hcolr, hb]; simp [own, foldFrom, foldStep, hf, FoldAcc.seq, RetRes.acc]
  | case9 s p l r hp n rl hab rr habr x b hb hf hcol hcolr =>
    -- budget `b + 1` left: the entry is rejected, `_remove_node` at this node
    rename_i ihl ihr
    have hown : ¬ rr.budget < (own p (some x)).length := by rw [hb]; exact Nat.not_succ_le_zero _ ∘ Nat.le_of_succ_le_succ
    refine .node hwf (rl := rl) (rr := rr) (ihl (hwf.of_child false)) (ihr (hwf.of_child true)) hab hcol
      (acc := ?_) (budget := by rw [hb]; rfl)
      (aborted := ⟨nofun, fun h => h.elim (absurd · habr) (absurd · hown)⟩) (leaf := nofun)
    rw [liftC_neg rr.acc hcolr, hb]
    simp [own, foldFrom, foldStep, hf, FoldAcc.seq, RetRes.acc, remove_of_key, removeHere_val]

theorem retainF_eq_fold (f : Pfx w → V → Bool) {k : List Bool} {t : Tree w V} (hwf : WF k t) (hp : Bool) (n : Nat) :
    (retainF f t hp n).acc = foldF f hp (t.postorder.take n) t ∧
    (retainF f t hp n).budget = n - t.postorder.length ∧
    (retainF f t hp n).aborted = decide (n < t.postorder.length) :=
  have h := retainF_ok (f := f) hwf hp n
  ⟨h.acc, h.budget, by rw [Bool.eq_iff_iff, h.aborted, decide_eq_true_iff]⟩

end Tree

namespace PMap
variable {w : Nat} {V : Type}
open Tree

theorem retainRec_eq {m : PMap w V} (h : m.TreeWF) (f : Pfx w → V → Bool) (stop : Option Nat) :
    m.retainRec f stop = m.retain f stop := by
  rw [retain_eq_foldF]
  cases stop with
  | none =>
    have := (retainF_ok (f := f) h.wf false m.root.postorder.length).acc
    rw [List.take_length] at this
    exact congrArg (liftAcc m) this
  | some k => exact congrArg (liftAcc m) (retainF_ok h.wf false (k - 1)).acc

end PMap
