import PT.Lemmas.Machine
import PT.Lemmas.Pair
/-!
# `difference` / `difference_mut` / `covering_difference(_mut)` against their specifications

Both run on the same indices.  Difference carries the longest match found so far in `b`; its invariant
adds to the geometry that the value of an entered node of `b` is already folded into that annotation
(`dOk`), which is what lets an equation pass from a node of `b` to its child (`lpm_side_fold`, in Pair).  Covering
difference is the same machine without annotations, read through a filter: its specification is the
un-annotated part of difference's (`covDiffS_eq_filter`), and so is what an index denotes (`cSem`, `cStep_cases`).
-/
namespace SetOps
variable {w : Nat} {L R : Type}
open Tree Machine

theorem diffS_append (A1 A2 : KL w L) (B : KL w R) (base : Lpm w R) :
    diffS (A1 ++ A2) B base = diffS A1 B base ++ diffS A2 B base := by
  simp [diffS, List.filterMap_append]

theorem diffS_drop {A : KL w L} {B : KL w R} {ann : Lpm w R} (h : Free A B) :
    diffS A B ann = diffS A ([] : KL w R) ann := by
  unfold diffS
  apply filterMap_congr
  intro a ha
  have : lookupK B (keyOf a) = none := lookupK_of_cover_nil (h a ha)
  rw [this, lpmK_of_cover_nil (h a ha)]; rfl

theorem covDiffS_covered {A : KL w L} {B : KL w R} (h : ∀ a ∈ A, coverK B a.2.1 ≠ []) : covDiffS A B = [] := by
  unfold covDiffS
  rw [List.filterMap_eq_nil_iff]
  intro a ha
  simp [h a ha]

theorem coverK_nil_iff {B : KL w R} {p : Pfx w} :
    coverK B p = [] ↔ lookupK B p.net = none ∧ lpmK B p = none := by
  constructor
  · intro h; exact ⟨lookupK_of_cover_nil h, lpmK_of_cover_nil h⟩
  · rintro ⟨_, h⟩
    unfold lpmK at h
    rwa [Option.map_eq_none_iff, List.getLast?_eq_none_iff] at h

theorem covDiffS_eq_filter (A : KL w L) (B : KL w R) :
    covDiffS A B = (diffS A B none).filter (fun d => d.right.isNone) := by
  unfold covDiffS diffS
  rw [List.filter_filterMap]
  apply filterMap_congr
  intro a _
  by_cases hc : coverK B a.2.1 = []
  · have := coverK_nil_iff.1 hc
    rw [show lookupK B (keyOf a) = none from this.1, this.2]; simp [hc, orE, Option.filter]
  · cases hl : lookupK B (keyOf a) with
    | some b => simp [hc]
    | none =>
      cases hm : lpmK B a.2.1 with
      | none => exact absurd (coverK_nil_iff.2 ⟨hl, hm⟩) hc
      | some x => simp [hc, orE, Option.filter]

section spec
variable {sl : Nat} {pl : Pfx w} {vl : Option L} {ll lr : Tree w L}
  {sr : Nat} {pr : Pfx w} {vr : Option R} {rl rr : Tree w R} {ann : Lpm w R} {c : Bool}

theorem diffS_fold {A : KL w L} (ann : Lpm w R) (hA : Under pr.net A) :
    diffS A (Tree.node sr pr vr rl rr).slotEntries (orLpm (Tree.node sr pr vr rl rr) ann) =
      diffS A (Tree.node sr pr vr rl rr).slotEntries ann := by
  unfold diffS
  refine filterMap_congr (fun a ha => ?_)
  have := ann_fold_absorb (s := sr) (v := vr) (l := rl) (r := rr) ann (hA a ha)
  unfold annOf at this
  rw [this]

theorem diffS_own_free {B : KL w R} (ann : Lpm w R) (h : coverK B pl = []) :
    diffS (ownS sl pl vl) B ann = (dItemOf ann (Tree.node sl pl vl ll lr)).toList := by
  cases vl with
  | none => rfl
  | some x =>
    have h1 : lookupK B (keyOf (sl, pl, x)) = none := lookupK_of_cover_nil h
    simp [ownS, diffS, h1, lpmK_of_cover_nil h, orE, dItemOf]

theorem diffS_below {A : KL w L} (h : HasWF (.node sr pr vr rl rr)) (hA : Under (pr.net ++ [c]) A)
    (hfold : orLpm (Tree.node sr pr vr rl rr) ann = ann) :
    diffS A (Tree.node sr pr vr rl rr).slotEntries ann = diffS A (child rl rr c).slotEntries ann := by
  unfold diffS
  apply filterMap_congr
  intro a ha
  rw [lookupK_side h c (hA a ha), lpm_side_fold h c (hA a ha) hfold]

theorem diffS_above {B : KL w R} (hB : Under (pl.net ++ [c]) B) :
    diffS (Tree.node sl pl vl ll lr).slotEntries B ann =
      (dItemOf ann (Tree.node sl pl vl ll lr)).toList ++ (diffS ll.slotEntries B ann ++ diffS lr.slotEntries B ann) := by
  rw [slotEntries_node, diffS_append, diffS_append, diffS_own_free ann (coverK_below hB (List.prefix_refl _)),
    List.append_assoc]

theorem diffS_both (hwl : HasWF (.node sl pl vl ll lr)) (hwr : HasWF (.node sr pr vr rl rr)) (hnet : pl.net = pr.net)
    (hfold : orLpm (Tree.node sr pr vr rl rr) ann = ann) :
    diffS (Tree.node sl pl vl ll lr).slotEntries (Tree.node sr pr vr rl rr).slotEntries ann =
      (if vr.isNone then dItemOf ann (Tree.node sl pl vl ll lr) else none).toList ++
        (diffS ll.slotEntries rl.slotEntries ann ++ diffS lr.slotEntries rr.slotEntries ann) := by
  obtain ⟨_, ull, ulr⟩ := under_root hwl
  rw [slotEntries_node sl, diffS_append, diffS_append,
    diffS_below (A := ll.slotEntries) (c := false) hwr (hnet ▸ ull) hfold,
    diffS_below (A := lr.slotEntries) (c := true) hwr (hnet ▸ ulr) hfold, List.append_assoc]
  congr 1
  cases vr with
  | some y =>
    cases vl with
    | none => rfl
    | some x =>
      have : lookupK (Tree.node sr pr (some y) rl rr).slotEntries (keyOf (sl, pl, x)) = some (sr, pr, y) := by
        rw [show keyOf (sl, pl, x) = pr.net from hnet]; simp [slotEntries, lookupK, keyOf]
      simp [ownS, diffS, this]
  | none => exact diffS_own_free ann (coverK_children hwr (hnet ▸ List.prefix_refl _))

end spec

section next
variable {sa : Nat} {pa : Pfx w} {va : Option L} {la ra : Tree w L}
  {sb : Nat} {pb : Pfx w} {vb : Option R} {lb rb : Tree w R}

theorem dNext_node : dNext (.node sa pa va la ra) (.node sb pb vb lb rb) =
    cmpPfx pa pb [.both (.node sa pa va la ra) (.node sb pb vb lb rb)]
      [.firstL (.node sa pa va la ra) (.node sb pb vb lb rb)] [.firstR (.node sa pa va la ra) (.node sb pb vb lb rb)]
      [.onlyL (.node sa pa va la ra)] := rfl

theorem dNext_nil_right (a : Tree w L) : dNext a (.nil : Tree w R) = only .onlyL a := by cases a <;> rfl

theorem dNext_sides {k : List Bool} (x : Bool) {a : Tree w L} {b : Tree w R} (ha : WF (k ++ [x]) a) (hb : WF (k ++ [!x]) b) :
    dNext a b = only .onlyL a := by
  cases a with
  | nil => rfl
  | node sa pa va la ra =>
    cases b with
    | nil => rfl
    | node sb pb vb lb rb =>
      rw [dNext_node, cmpPfx_sides ha.1 hb.1]; rfl

variable {sl : Nat} {pl : Pfx w} {vl : Option L} {ll lr : Tree w L}
  {sr : Nat} {pr : Pfx w} {vr : Option R} {rl rr : Tree w R} {c : Bool}

theorem dFirstA_firstG (pl : Pfx w) (ll lr : Tree w L) (r : Tree w R) :
    dFirstA pl ll lr r = firstG (fun t => dNext t r) (only .onlyL) [] (toRightOf pl r) ll lr := by
  cases ll <;> cases lr <;> rfl

theorem dFirstB_firstG (l : Tree w L) (pr : Pfx w) (rl rr : Tree w R) :
    dFirstB l pr rl rr = firstG (fun t => dNext l t) (fun _ => []) [.onlyL l] (toRightOf pr l) rl rr := by
  cases rl <;> cases rr <;> simp [dFirstB, firstG]

theorem dFirstA_eq (hwl : HasWF (.node sl pl vl ll lr)) (hwr : HasWF (.node sr pr vr rl rr)) (hc : pl.net ++ [c] <+: pr.net) :
    dFirstA pl ll lr (.node sr pr vr rl rr) =
      if c then dNext lr (.node sr pr vr rl rr) ++ only .onlyL ll else only .onlyL lr ++ dNext ll (.node sr pr vr rl rr) := by
  have hr : ∀ x, c = x → WF (pl.net ++ [x]) (Tree.node sr pr vr rl rr) := fun _ h => h ▸ hwr.wf_of_prefix hc
  rw [dFirstA_firstG, show toRightOf pl (Tree.node sr pr vr rl rr) = c from Pfx.toRight_of_prefix hc]
  exact firstG_eq rfl rfl (fun h => dNext_sides false (hwl.wf_child false) (hr _ h))
    (fun h => (dNext_sides true (hwl.wf_child true) (hr _ h)).trans (List.append_nil _).symm)

theorem dFirstB_eq (hwl : HasWF (.node sl pl vl ll lr)) (hwr : HasWF (.node sr pr vr rl rr)) (hc : pr.net ++ [c] <+: pl.net) :
    dFirstB (.node sl pl vl ll lr) pr rl rr = dNext (.node sl pl vl ll lr) (child rl rr c) := by
  have hl : ∀ x, c = x → WF (pr.net ++ [x]) (Tree.node sl pl vl ll lr) := fun _ h => h ▸ hwl.wf_of_prefix hc
  rw [dFirstB_firstG, show toRightOf pr (Tree.node sl pl vl ll lr) = c from Pfx.toRight_of_prefix hc]
  refine (firstG_eq rfl rfl (fun h => dNext_sides true (hl _ h) (hwr.wf_child false))
    (fun h => dNext_sides false (hl _ h) (hwr.wf_child true))).trans ?_
  cases c <;> simp
end next

/-- `dL`, `dR`, `dSem`, `dNu`, `dOk`: as `iL` … `iOk` in Inter.lean -/
def dL : DIdx w L R → Tree w L
  | .both l _ => l
  | .firstL l _ => l
  | .firstR l _ => l
  | .onlyL l => l

def dR : DIdx w L R → Tree w R
  | .both _ r => r
  | .firstL _ r => r
  | .firstR _ r => r
  | .onlyL _ => .nil

def dSem (e : DEntry w L R) : List (DItem w L R) := diffS (dL e.1).slotEntries (dR e.1).slotEntries e.2

def dNu (e : DEntry w L R) : Nat := (dL e.1).size + (dR e.1).size

/-- invariant of the covering-difference machine: the geometry only -/
def cOk (e : DIdx w L R) : Prop :=
  HasWF (dL e) ∧ HasWF (dR e) ∧
  match e with
  | .both l r => SameRoot l r
  | .firstL l r => Above l r
  | .firstR l r => Above r l
  | .onlyL l => l ≠ .nil

/-- invariant of the difference machine: where it has entered `r`, the value of `r`'s root is already
folded into the annotation -/
def dOk (e : DEntry w L R) : Prop :=
  cOk e.1 ∧
  match e.1 with
  | .both _ r | .firstR _ r => orLpm r e.2 = e.2
  | _ => True

theorem dExtend_append (ann : Lpm w R) (xs ys : List (DIdx w L R)) :
    dExtend ann (xs ++ ys) = dExtend ann xs ++ dExtend ann ys := by simp [dExtend]

theorem dOnly_spec {t : Tree w L} (B : KL w R) (ann : Lpm w R) (hw : HasWF t) (h : Free t.slotEntries B) :
    Pushes dOk dSem dNu (dExtend ann (only .onlyL t)) (diffS t.slotEntries B ann) t.size := by
  cases t with
  | nil => exact Pushes.nil
  | node s p v a b =>
    exact (Pushes.single ⟨⟨hw, hasWF_nil, nofun⟩, trivial⟩).cast
      (diffS_drop h).symm (Nat.le_refl _)

theorem dNext_spec (a : Tree w L) (b : Tree w R) (ann : Lpm w R) (hwa : HasWF a) (hwb : HasWF b) :
    Pushes dOk dSem dNu (dExtend ann (dNext a b)) (diffS a.slotEntries b.slotEntries ann) (a.size + b.size) := by
  cases b with
  | nil => rw [dNext_nil_right]; exact dOnly_spec _ ann hwa (Free.nil_right _)
  | node sb pb vb lb rb =>
    cases a with
    | nil => exact Pushes.nil.cast rfl (Nat.zero_le _)
    | node sa pa va la ra =>
      have ua := (under_root hwa).1
      rw [dNext_node]
      exact cmpPfx_cases (motive := fun xs => Pushes dOk dSem dNu (dExtend ann xs) _ _)
        (fun h => (Pushes.single ⟨⟨hwa, hwb, h⟩, orLpm_idem _ _⟩).cast (diffS_fold ann (h ▸ ua)) (Nat.le_refl _))
        (fun h hne => Pushes.single ⟨⟨hwa, hwb, h, hne⟩, trivial⟩)
        (fun h hne => (Pushes.single ⟨⟨hwa, hwb, h, Ne.symm hne⟩, orLpm_idem _ _⟩).cast
          (diffS_fold ann (ua.mono h)) (Nat.le_refl _))
        (fun h1 h2 => (dOnly_spec _ ann hwa (Free.incomparable ua (under_root hwb).1 h1 h2)).cast rfl
          (Nat.le_add_right _ _))

section first
variable {sl : Nat} {pl : Pfx w} {vl : Option L} {ll lr : Tree w L}
  {sr : Nat} {pr : Pfx w} {vr : Option R} {rl rr : Tree w R} {c : Bool}

theorem dFirstA_spec (ann : Lpm w R) (hwl : HasWF (.node sl pl vl ll lr)) (hwr : HasWF (.node sr pr vr rl rr))
    (hc : pl.net ++ [c] <+: pr.net) :
    Pushes dOk dSem dNu (dExtend ann (dFirstA pl ll lr (.node sr pr vr rl rr)))
      (diffS ll.slotEntries (Tree.node sr pr vr rl rr).slotEntries ann ++
        diffS lr.slotEntries (Tree.node sr pr vr rl rr).slotEntries ann)
      (ll.size + lr.size + (Tree.node sr pr vr rl rr).size) := by
  obtain ⟨_, ull, ulr⟩ := under_root hwl
  have ur := (under_root hwr).1.mono hc
  rw [dFirstA_eq hwl hwr hc]
  cases c
  · rw [if_neg (by simp), dExtend_append]
    exact ((dOnly_spec _ ann hwl.child.2 (Free.other_side true ulr ur)).append
      (dNext_spec ll _ ann hwl.child.1 hwr)).cast rfl (by omega)
  · rw [if_pos rfl, dExtend_append]
    exact ((dNext_spec lr _ ann hwl.child.2 hwr).append
      (dOnly_spec _ ann hwl.child.1 (Free.other_side false ull ur))).cast rfl (by omega)
end first

theorem dStep_ok (e : DEntry w L R) (h : dOk e) : Unfolds dOk dSem dNu some (dStep e) (dSem e) (dNu e) := by
  obtain ⟨idx, ann⟩ := e
  obtain ⟨⟨hwl, hwr, hrel⟩, hfold⟩ := h
  cases idx with
  | both l r =>
    obtain ⟨sl, pl, vl, ll, lr, sr, pr, vr, rl, rr, rfl, rfl, hrel⟩ := hrel.nodes
    exact Pushes.unfolds'
      ((dNext_spec lr rr ann hwl.child.2 hwr.child.2).append (dNext_spec ll rl ann hwl.child.1 hwr.child.1))
      (diffS_both hwl hwr hrel hfold) (size_both_lt ..)
  | firstL l r =>
    obtain ⟨sl, pl, vl, ll, lr, sr, pr, vr, rl, rr, rfl, rfl, hrel⟩ := hrel.nodes
    have hside := Pfx.side_prefix hrel.1 hrel.2
    exact Pushes.unfolds' (dFirstA_spec ann hwl hwr hside)
      (diffS_above ((under_root hwr).1.mono hside)) (size_above_lt ..)
  | firstR l r =>
    obtain ⟨sr, pr, vr, rl, rr, sl, pl, vl, ll, lr, rfl, rfl, hrel⟩ := hrel.nodes
    have hside := Pfx.side_prefix hrel.1 hrel.2
    show Unfolds dOk dSem dNu some (none, dExtend ann (dFirstB (.node sl pl vl ll lr) pr rl rr)) _ _
    rw [dFirstB_eq hwl hwr hside]
    exact (dNext_spec _ _ ann hwl ⟨_, hwr.wf_child _⟩).unfolds'
      (diffS_below hwr ((under_root hwl).1.mono hside) hfold)
      (Nat.add_lt_add_left (size_child_lt ..) _)
  | onlyL l =>
    cases l with
    | nil => exact absurd rfl hrel
    | node sl pl vl ll lr =>
      show Unfolds dOk dSem dNu some (dItemOf ann (.node sl pl vl ll lr), dExtend ann (onlyChildren .onlyL ll lr)) _ _
      rw [onlyChildren_eq, dExtend_append]
      exact ((dOnly_spec [] ann hwl.child.2 (Free.nil_right _)).append (dOnly_spec [] ann hwl.child.1 (Free.nil_right _))).unfolds'
        (diffS_above (c := false) (B := []) nofun)
        (size_only_lt sl pl vl ll lr)

theorem difference_eq (a : Tree w L) (b : Tree w R) (hwa : HasWF a) (hwb : HasWF b) :
    difference a b = diffS a.slotEntries b.slotEntries none := by
  have := run_unfolds dStep some dStep_ok (dNext_spec a b none hwa hwb) (fuel := fuelFor a b) (by unfold fuelFor; omega)
  rwa [List.filterMap_some] at this

def cSem (e : DIdx w L R) : List (DItem w L R) := (dSem (e, none)).filter (fun d => d.right.isNone)

def cNu (e : DIdx w L R) : Nat := (dL e).size + (dR e).size

/-- what `extend_lpm` makes of an index when nothing is inherited -/
def dExt0 : DIdx w L R → DEntry w L R
  | .both l r => (.both l r, orLpm r none)
  | .firstR l r => (.firstR l r, orLpm r none)
  | x => (x, none)

theorem dExtend_none (xs : List (DIdx w L R)) : dExtend none xs = xs.map dExt0 :=
  List.map_congr_left fun x _ => by cases x <;> rfl

theorem dExt0_fst (x : DIdx w L R) : (dExt0 x).1 = x := by cases x <;> rfl

/-- the root value of `b` that `extend_lpm` folds in is folded in by the specification anyway -/
theorem dSem_dExt0 {x : DIdx w L R} (h : dOk (dExt0 x)) : dSem (dExt0 x) = dSem (x, none) := by
  obtain ⟨⟨hwl, _, hrel⟩, _⟩ := h
  cases x with
  | both l r =>
    obtain ⟨sl, pl, vl, ll, lr, sr, pr, vr, rl, rr, rfl, rfl, hrel⟩ := hrel.nodes
    exact diffS_fold none (hrel ▸ (under_root hwl).1)
  | firstR l r =>
    obtain ⟨sr, pr, vr, rl, rr, sl, pl, vl, ll, lr, rfl, rfl, hrel⟩ := hrel.nodes
    exact diffS_fold none ((under_root hwl).1.mono hrel.1)
  | _ => rfl

theorem _root_.Machine.Pushes.toCov {xs : List (DIdx w L R)} {out : List (DItem w L R)} {n : Nat}
    (h : Pushes dOk dSem dNu (dExtend none xs) out n) :
    Pushes cOk cSem cNu xs (out.filter (fun d => d.right.isNone)) n := by
  rw [dExtend_none] at h
  have hok : ∀ c ∈ xs, dOk (dExt0 c) := fun c hc => h.ok _ (List.mem_map_of_mem hc)
  refine ⟨fun c hc => dExt0_fst c ▸ (hok c hc).1, ?_, ?_⟩
  · rw [← h.sem, ← List.map_reverse, List.flatMap_map, List.filter_flatMap]
    exact flatMap_congr fun c hc => by rw [cSem, ← dSem_dExt0 (hok c (List.mem_reverse.1 hc))]
  · refine Nat.le_trans (Nat.le_of_eq ?_) h.wt
    simp only [wt1, List.map_map]
    exact congrArg List.sum (List.map_congr_left fun c _ => by simp only [Function.comp, dNu, cNu, dExt0_fst])

theorem dItemOf_right {t : Tree w L} {d : DItem w L R} (h : d ∈ dItemOf none t) : d.right = none := by
  cases t with
  | nil => cases h
  | node s p v a b => cases v <;> cases h; rfl

/-- a valued root of `b` at or above the root of `a` covers all of `a`: no item below is without annotation -/
theorem cSem_valued {a : Tree w L} {sr : Nat} {pr : Pfx w} {y : R} {rl rr : Tree w R} (ha : Under pr.net a.slotEntries) :
    (diffS a.slotEntries (Tree.node sr pr (some y) rl rr).slotEntries none).filter (fun d => d.right.isNone) = [] :=
  (covDiffS_eq_filter _ _).symm.trans (covDiffS_covered fun x hx => List.ne_nil_of_mem (root_mem_coverK (ha x hx)))

/-- `cStep` is `dStep` with nothing inherited, unless it drops the entry because `b`'s root has a value -/
theorem cStep_cases {e : DIdx w L R} (h : cOk e) :
    (dOk (e, none) ∧ dStep (e, none) = ((cStep e).1, dExtend none (cStep e).2) ∧ ∀ d ∈ (cStep e).1, d.right = none) ∨
    (cStep e = (none, []) ∧ cSem e = [] ∧ 1 ≤ cNu e) := by
  obtain ⟨hwl, hwr, hrel⟩ := h
  cases e with
  | both l r =>
    obtain ⟨sl, pl, vl, ll, lr, sr, pr, vr, rl, rr, rfl, rfl, hrel⟩ := hrel.nodes
    cases vr with
    | some y => exact .inr ⟨rfl, cSem_valued (hrel ▸ (under_root hwl).1), by simp only [cNu, dL, Tree.size]; omega⟩
    | none =>
      exact .inl ⟨⟨⟨hwl, hwr, hrel⟩, rfl⟩, congrArg (Prod.mk _) (dExtend_append none _ _).symm, fun d => dItemOf_right⟩
  | firstL l r =>
    obtain ⟨sl, pl, vl, ll, lr, sr, pr, vr, rl, rr, rfl, rfl, hrel⟩ := hrel.nodes
    exact .inl ⟨⟨⟨hwl, hwr, hrel⟩, trivial⟩, rfl, fun d => dItemOf_right⟩
  | firstR l r =>
    obtain ⟨sr, pr, vr, rl, rr, sl, pl, vl, ll, lr, rfl, rfl, hrel⟩ := hrel.nodes
    cases vr with
    | some y => exact .inr ⟨rfl, cSem_valued ((under_root hwl).1.mono hrel.1), by simp only [cNu, dL, Tree.size]; omega⟩
    | none => exact .inl ⟨⟨⟨hwl, hwr, hrel⟩, rfl⟩, rfl, nofun⟩
  | onlyL l =>
    cases l with
    | nil => exact absurd rfl hrel
    | node sl pl vl ll lr => exact .inl ⟨⟨⟨hwl, hwr, hrel⟩, trivial⟩, rfl, fun d => dItemOf_right⟩

theorem cStep_ok (e : DIdx w L R) (h : cOk e) : Unfolds cOk cSem cNu some (cStep e) (cSem e) (cNu e) := by
  rcases cStep_cases h with ⟨hf, hs, hi⟩ | ⟨hs, hsem, hn⟩
  · have U := dStep_ok (e, none) hf
    rw [hs] at U
    refine (Pushes.toCov ⟨U.ok, rfl, Nat.le_refl _⟩).unfolds' ?_ U.wt
    rw [cSem, U.sem, Option.bind_fun_some, List.filter_append]
    exact congrArg (· ++ _) (List.filter_eq_self.2 fun d hd => by rw [hi d (Option.mem_toList.1 hd)]; rfl)
  · rw [hs, hsem]; exact Pushes.nil.unfolds' rfl hn

theorem coveringDifference_eq (a : Tree w L) (b : Tree w R) (hwa : HasWF a) (hwb : HasWF b) :
    coveringDifference a b = covDiffS a.slotEntries b.slotEntries := by
  have := run_unfolds cStep some cStep_ok (dNext_spec a b none hwa hwb).toCov (fuel := fuelFor a b)
    (by unfold fuelFor; omega)
  rwa [List.filterMap_some, ← covDiffS_eq_filter] at this

/-! ### facts about the definitions that no proof uses -/

theorem diffS_nil_left (B : KL w R) (base : Lpm w R) : diffS ([] : KL w L) B base = [] := rfl
theorem covDiffS_nil_left (B : KL w R) : covDiffS ([] : KL w L) B = [] := rfl

theorem dExtend_onlyL (ann : Lpm w R) (t : Tree w L) :
    dExtend ann [(.onlyL t : DIdx w L R)] = [(.onlyL t, ann)] := rfl

theorem dExtend_cons_onlyL (ann : Lpm w R) (t : Tree w L) (xs : List (DIdx w L R)) :
    dExtend ann ((.onlyL t : DIdx w L R) :: xs) = (.onlyL t, ann) :: dExtend ann xs := rfl

theorem dExtend_nil (ann : Lpm w R) : dExtend ann ([] : List (DIdx w L R)) = [] := rfl

theorem dSem_onlyL (t : Tree w L) (ann : Lpm w R) :
    dSem ((.onlyL t : DIdx w L R), ann) = diffS t.slotEntries ([] : KL w R) ann := rfl

end SetOps
