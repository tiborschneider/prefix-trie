import PT.Lemmas.WF
/-!
# Observers against the entry list: exact match, cover, longest / shortest prefix match

Each observer has a node equation over `getDir`; with the facts of WF.lean about which child can hold
entries related to `q` it becomes a list equality on `entries`.  `get_lpm` / `get_spm` keep the last / first
item of `cover`, whatever the tree.
-/
namespace Tree
variable {w : Nat} {V : Type}
open Pfx

theorem findNode_node (s : Nat) (p : Pfx w) (v : Option V) (l r : Tree w V) (q : Pfx w) :
    findNode (node s p v l r) q = (match getDir p l r q with
      | .reached => some (p, v)
      | .enter b => findNode (child l r b) q
      | .missing => none) := by
  rw [findNode]
  cases getDir p l r q with
  | enter b => cases b <;> rfl
  | _ => rfl

theorem getKeyValue_node (s : Nat) (p : Pfx w) (v : Option V) (l r : Tree w V) (q : Pfx w) :
    getKeyValue (node s p v l r) q = (match getDir p l r q with
      | .reached => (own p v).head?
      | .enter b => getKeyValue (child l r b) q
      | .missing => none) := by
  unfold getKeyValue
  rw [findNode_node]
  cases getDir p l r q with
  | reached => cases v <;> rfl
  | _ => rfl

theorem get_eq (t : Tree w V) (q : Pfx w) : get t q = (getKeyValue t q).map (·.2) := by
  unfold get getKeyValue
  rcases findNode t q with _ | ⟨p, _ | x⟩ <;> rfl

section
variable {k : List Bool} {t : Tree w V} (hwf : WF k t) (q : Pfx w)
include hwf

theorem getKeyValue_toList :
    (getKeyValue t q).toList = t.entries.filter (fun e => e.1.eqv q) := by
  induction t using child_induction generalizing k with
  | nil => rfl
  | node s p v l r ih =>
    rw [getKeyValue_node]
    cases hg : getDir p l r q with
    | reached =>
      rw [filter_node_own (hwf.eqv_reached hg), List.filter_eq_self.2 (own_eqv (getDir_reached hg))]
      cases v <;> rfl
    | enter b =>
      obtain ⟨hown, hoth⟩ := hwf.eqv_enter hg
      rw [filter_node_side b hoth, List.filter_false hown]
      exact ih b (hwf.of_child b)
    | missing => exact (List.filter_false (hwf.eqv_missing hg)).symm

theorem getKeyValue_iff (p : Pfx w) (x : V) :
    getKeyValue t q = some (p, x) ↔ (p, x) ∈ t.entries ∧ p.net = q.net := by
  rw [← Option.mem_toList, getKeyValue_toList hwf, List.mem_filter, eqv_iff]

theorem get_iff (x : V) :
    get t q = some x ↔ ∃ p, (p, x) ∈ t.entries ∧ p.net = q.net := by
  rw [get_eq, Option.map_eq_some_iff]
  constructor
  · rintro ⟨⟨p, y⟩, h, rfl⟩; exact ⟨p, (getKeyValue_iff hwf q p y).1 h⟩
  · rintro ⟨p, h⟩; exact ⟨(p, x), (getKeyValue_iff hwf q p x).2 h, rfl⟩

theorem get_none_iff :
    get t q = none ↔ ∀ e ∈ t.entries, e.1.net ≠ q.net := by
  rw [get_eq, Option.map_eq_none_iff, ← Option.toList_eq_nil_iff, getKeyValue_toList hwf,
    List.filter_eq_nil_iff]
  simp only [eqv_iff, ne_eq]

theorem containsKey_iff :
    containsKey t q = true ↔ ∃ e ∈ t.entries, e.1.net = q.net := by
  rw [containsKey, Option.isSome_iff_exists]
  simp only [get_iff hwf]
  exact ⟨fun ⟨x, p, h, hk⟩ => ⟨(p, x), h, hk⟩, fun ⟨e, he, hk⟩ => ⟨e.2, e.1, he, hk⟩⟩

end

theorem findNode_congr {t : Tree w V} {q q' : Pfx w} (h : q.net = q'.net) :
    findNode t q = findNode t q' := by
  induction t using child_induction with
  | nil => rfl
  | node s p v l r ih =>
    rw [findNode_node, findNode_node, getDir_congr h]
    cases getDir p l r q' with
    | enter b => exact ih b
    | _ => rfl

theorem WF.key_inj {k : List Bool} {t : Tree w V} (h : WF k t) {e1 e2 : Pfx w × V}
    (h1 : e1 ∈ t.entries) (h2 : e2 ∈ t.entries) (hk : e1.1.net = e2.1.net) : e1 = e2 := by
  have m1 := (getKeyValue_iff h e2.1 e1.1 e1.2).2 ⟨h1, hk⟩
  have m2 := (getKeyValue_iff h e2.1 e2.1 e2.2).2 ⟨h2, rfl⟩
  rw [m1] at m2
  exact Option.some.inj m2

/-- what `cover(q)` has to yield -/
def covering (t : Tree w V) (q : Pfx w) : List (Pfx w × V) := t.entries.filter (fun e => e.1.contains q)

theorem covering_node {k : List Bool} {s : Nat} {p : Pfx w} {v : Option V} {l r : Tree w V} {q : Pfx w}
    (hwf : WF k (node s p v l r)) (hp : p.net <+: q.net) :
    covering (node s p v l r) q = own p v ++ (match getDir p l r q with
      | .enter b => covering (child l r b) q
      | _ => []) := by
  unfold covering
  have hown := List.filter_eq_self.2 fun e (he : e ∈ own p v) =>
    (contains_iff e.1 q).2 ((mem_own.1 he).2 ▸ hp)
  cases hg : getDir p l r q with
  | reached => rw [filter_node_own (hwf.contains_reached hg), hown, List.append_nil]
  | enter b => rw [filter_node_side b (hwf.contains_enter hg), hown]
  | missing => rw [filter_node_own (hwf.contains_missing hg), hown, List.append_nil]

theorem coverGo_node (s : Nat) (p : Pfx w) (v : Option V) (l r : Tree w V) (q : Pfx w) :
    coverGo (node s p v l r) q = (match getDir p l r q with
      | .enter b => (child l r b).pvList ++ coverGo (child l r b) q
      | _ => []) := by
  rw [coverGo]
  cases getDir p l r q with
  | enter b => cases b <;> rfl
  | _ => rfl

theorem pvList_eq_own (s : Nat) (p : Pfx w) (v : Option V) (l r : Tree w V) :
    (node s p v l r).pvList = own p v := by
  cases v <;> rfl

/-- needs no well-formedness: `cover` yields at most one item per node on its path -/
theorem cover_length_le_size (t : Tree w V) (q : Pfx w) : (cover t q).length ≤ t.size := by
  induction t using child_induction with
  | nil => exact Nat.le_refl 0
  | node s p v l r ih =>
    rw [cover, pvList_eq_own, coverGo_node, List.length_append, size]
    have hown : (own p v).length ≤ 1 := by cases v; exact Nat.zero_le 1; exact Nat.le_refl 1
    rw [Nat.add_assoc]
    cases getDir p l r q with
    | enter b =>
      exact Nat.add_le_add hown (Nat.le_trans (ih b) (by cases b; exact Nat.le_add_right ..; exact Nat.le_add_left ..))
    | _ => exact Nat.add_le_add hown (Nat.zero_le _)

/-- the invariant of every descent towards `q` -/
def RootCovers (t : Tree w V) (q : Pfx w) : Prop := ∀ p, t.pfx? = some p → p.net <+: q.net

theorem RootCovers.node {s : Nat} {p : Pfx w} {v : Option V} {l r : Tree w V} {q : Pfx w}
    (h : p.net <+: q.net) : RootCovers (node s p v l r) q := by
  intro p' hp'; simp [pfx?] at hp'; subst hp'; exact h

theorem RootCovers.of_enter {p : Pfx w} {l r : Tree w V} {q : Pfx w} {b : Bool}
    (hg : getDir p l r q = .enter b) : RootCovers (child l r b) q := by
  obtain ⟨_, _, cs, cp, cv, cl, cr, hch, hcq⟩ := getDir_enter hg
  rw [hch]; exact .node hcq

theorem cover_eq_covering {k : List Bool} {t : Tree w V} (hwf : WF k t) {q : Pfx w} (hc : RootCovers t q) :
    cover t q = covering t q := by
  induction t using child_induction generalizing k with
  | nil => rfl
  | node s p v l r ih =>
    rw [cover, pvList_eq_own, covering_node hwf (hc p rfl), coverGo_node]
    cases hg : getDir p l r q with
    | enter b => exact congrArg _ (ih b (hwf.of_child b) (.of_enter hg))
    | _ => rfl

theorem covering_sorted {k : List Bool} {t : Tree w V} (hwf : WF k t) (q : Pfx w) :
    (covering t q).Pairwise (fun a b => a.1.len < b.1.len) := by
  induction t using child_induction generalizing k with
  | nil => exact List.Pairwise.nil
  | node s p v l r ih =>
    by_cases hp : p.net <+: q.net
    · have hown : (own p v).Pairwise (fun a b => a.1.len < b.1.len) := by cases v <;> simp [own]
      rw [covering_node hwf hp]
      cases getDir p l r q with
      | enter b =>
        -- the own entry is shorter than everything below
        refine List.pairwise_append.2 ⟨hown, ih b (hwf.of_child b), fun a ha c hc => ?_⟩
        have := (hwf.mem_child_entries b (List.mem_filter.1 hc).1).length_le
        rw [(mem_own.1 ha).2]
        simp [net_length] at this; omega
      | _ => rwa [List.append_nil]
    · rw [covering, List.filter_false (hwf.self.contains_false hp)]; exact List.Pairwise.nil

theorem pvOr_eq (p : Pfx w) (v : Option V) (best : Option (Pfx w × V)) :
    pvOr p v best = ((own p v).getLast?).or best := by
  cases v <;> rfl

theorem getLpm_node (s : Nat) (p : Pfx w) (v : Option V) (l r : Tree w V) (q : Pfx w)
    (best : Option (Pfx w × V)) :
    getLpm (node s p v l r) q best = (match getDir p l r q with
      | .enter b => getLpm (child l r b) q (pvOr p v best)
      | _ => pvOr p v best) := by
  rw [getLpm]
  cases getDir p l r q with
  | enter b => cases b <;> rfl
  | _ => rfl

/-- `get_lpm` makes the descent of `cover` and keeps the last item: true of any tree, so the invariant
is needed only once, for `cover` (`cover_eq_covering`) -/
theorem getLpm_eq_cover (t : Tree w V) (q : Pfx w) (best : Option (Pfx w × V)) :
    getLpm t q best = ((cover t q).getLast?).or best := by
  induction t using child_induction generalizing best with
  | nil => rfl
  | node s p v l r ih =>
    rw [getLpm_node, cover, coverGo_node, pvList_eq_own, List.getLast?_append, Option.or_assoc, ← pvOr_eq]
    cases getDir p l r q with
    | enter b => exact ih b _
    | _ => rfl

theorem getLpm_eq_covering {k : List Bool} {t : Tree w V} (hwf : WF k t) (q : Pfx w) (best : Option (Pfx w × V))
    (hcov : RootCovers t q) :
    getLpm t q best = ((covering t q).getLast?).or best := by
  rw [getLpm_eq_cover, cover_eq_covering hwf hcov]

theorem pvList_of_pv {t : Tree w V} : t.pvList = t.pv.toList := rfl

theorem getSpmGo_node (s : Nat) (p : Pfx w) (v : Option V) (l r : Tree w V) (q : Pfx w) :
    getSpmGo (node s p v l r) q = (match getDir p l r q with
      | .reached => pvOr p v none
      | .enter b => (match (child l r b).pv with | some x => some x | none => getSpmGo (child l r b) q)
      | .missing => none) := by
  rw [getSpmGo]
  cases getDir p l r q with
  | enter b => cases b <;> rfl
  | _ => rfl

theorem getSpm_eq (t : Tree w V) (q : Pfx w) : getSpm t q = (cover t q).head? := by
  induction t using child_induction with
  | nil => rfl
  | node s p v l r ih =>
    cases v with
    | some x => rfl
    | none =>
      show getSpmGo (node s p none l r) q = (coverGo (node s p none l r) q).head?
      rw [getSpmGo_node, coverGo_node]
      cases getDir p l r q with
      | enter b => exact ih b
      | _ => rfl

theorem cover_congr {q q' : Pfx w} (h : q.net = q'.net) (t : Tree w V) : cover t q = cover t q' := by
  unfold cover
  congr 1
  induction t using child_induction with
  | nil => rfl
  | node s p v l r ih =>
    rw [coverGo_node, coverGo_node, getDir_congr h]
    cases getDir p l r q' with
    | enter b => simp only [ih b]
    | _ => rfl

theorem covering_getLast {k : List Bool} {t : Tree w V} (hwf : WF k t) {q : Pfx w} {e : Pfx w × V}
    (he : (covering t q).getLast? = some e) :
    e ∈ t.entries ∧ e.1.contains q = true ∧
      ∀ e' ∈ t.entries, e'.1.contains q = true → e'.1.len ≤ e.1.len := by
  have hmem := List.mem_filter.1 (List.mem_of_getLast? he)
  refine ⟨hmem.1, hmem.2, fun e' h1 h2 => ?_⟩
  rcases (covering_sorted hwf q).getLast?_rel he e' (List.mem_filter.2 ⟨h1, h2⟩) with rfl | h
  · exact Nat.le_refl _
  · exact Nat.le_of_lt h

theorem covering_head {k : List Bool} {t : Tree w V} (hwf : WF k t) {q : Pfx w} {e : Pfx w × V}
    (he : (covering t q).head? = some e) :
    ∀ e' ∈ t.entries, e'.1.contains q = true → e.1.len ≤ e'.1.len := fun e' h1 h2 => by
  rcases (covering_sorted hwf q).head?_rel he e' (List.mem_filter.2 ⟨h1, h2⟩) with rfl | h
  · exact Nat.le_refl _
  · exact Nat.le_of_lt h

end Tree
