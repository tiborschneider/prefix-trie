import PT.Lemmas.Children
import PT.Lemmas.Inv
/-!
# `remove_children` on the map: the detached subtree goes to the free list, the covered entries go
-/
namespace Tree
variable {w : Nat} {V : Type}

theorem rmChildren_counts {t : Tree w V} {q : Pfx w} {t' rem : Tree w V} (h : rmChildren t q = .done t' rem) :
    t.card = t'.card + rem.card ∧ (rem.slots ++ t'.slots).Perm t.slots := by
  have rebuild : ∀ s p v (l r : Tree w V) b (c rem : Tree w V),
      ((child l r b).card = c.card + rem.card ∧ (rem.slots ++ c.slots).Perm (child l r b).slots) →
      (node s p v l r).card = (setChild s p v l r b c).card + rem.card ∧
        (rem.slots ++ (setChild s p v l r b c).slots).Perm (node s p v l r).slots :=
    fun s p v l r b c rem hc => ⟨by have := card_setChild s p v l r c b; omega, perm_setChild (B := []) s p v l r b hc.2⟩
  refine rmChildren_done_induction (motive := fun t t' rem =>
    t.card = t'.card + rem.card ∧ (rem.slots ++ t'.slots).Perm t.slots) ?_ ?_ h
  · intro s p v l r b; intros; exact rebuild s p v l r b nil _ ⟨by simp, by simp [slots]⟩
  · intro s p v l r b _ _ _ _ _ c rem _ _ _ _ ih; exact rebuild s p v l r b c rem ih

theorem rmChildren_rootKey {t : Tree w V} {q : Pfx w} {t' rem : Tree w V} (h : rmChildren t q = .done t' rem) :
    t'.rootKey = t.rootKey := by
  refine rmChildren_done_induction (motive := fun t t' _ => t'.rootKey = t.rootKey) ?_ ?_ h <;>
    intros <;> exact rootKey_setChild ..

end Tree

namespace PMap
variable {w : Nat} {V : Type}
open Tree Pfx

theorem removeChildren_eq_of_len_ne {m : PMap w V} {q : Pfx w} (hq : q.len ≠ 0) :
    m.removeChildren q = match m.root.rmChildren q with
      | .done t rem => ⟨t, m.free ++ rem.freeOrder, m.alloc, m.count - rem.entries.length⟩
      | _ => m := by
  unfold removeChildren; rw [if_neg hq]; cases m.root.rmChildren q <;> rfl

theorem removeChildren_inv {m : PMap w V} (h : m.Inv) (q : Pfx w) : (m.removeChildren q).Inv := by
  by_cases hq : q.len = 0
  · unfold removeChildren; rw [if_pos hq]; exact clear_inv m
  · rw [removeChildren_eq_of_len_ne hq]
    cases hr : m.root.rmChildren q with
    | notFound => exact h
    | here => exact h
    | done t rem =>
      have hcnt := rmChildren_counts hr
      refine h.of_freed (h.tree.of_rootKey (rmChildren_rootKey hr)
        (rmChildren_done h.tree.wf (h.tree.rootCovers q) hr).1) ?_
        (((freeOrder_perm rem).append_right _).trans hcnt.2)
      rw [h.count, hcnt.1]; unfold Tree.card; omega

theorem removeChildren_entries {m : PMap w V} (h : m.TreeWF) (q : Pfx w) :
    (m.removeChildren q).entries = m.entries.filter (fun e => !q.contains e.1) := by
  by_cases hq : q.len = 0
  · -- the zero-length prefix takes the `clear` branch of the model; it covers every entry
    have hn : q.net = [] := List.length_eq_zero_iff.1 ((Pfx.net_length q).trans hq)
    unfold removeChildren
    rw [if_pos hq]
    exact (List.filter_false fun e _ => by rw [(contains_iff q e.1).2 (hn ▸ List.nil_prefix)]; rfl).symm
  · rw [removeChildren_eq_of_len_ne hq]
    have hcs := rmChildren_childrenStart m.root q
    cases hr : m.root.rmChildren q with
    | done t rem => exact (rmChildren_done h.wf (h.rootCovers q) hr).2
    | here =>
      -- the root carries the zero-length prefix, so only a `q` of length 0 reaches it
      obtain ⟨s, p, v, l, r, hroot, hpq⟩ := rmChildren_here hr
      have hl := Pfx.net_length q
      rw [← hpq, h.root_pfx p (by rw [hroot]; rfl)] at hl
      exact absurd hl.symm hq
    | notFound =>
      rw [hr] at hcs
      have := childrenStart_entries h.wf (h.rootCovers q)
      rw [hcs] at this
      exact (List.filter_not_false fun e he => Bool.eq_false_iff.2 (List.filter_eq_nil_iff.1 this.symm e he)).symm

theorem removeChildren_mem {m : PMap w V} (h : m.TreeWF) (q : Pfx w) (e : Pfx w × V) :
    e ∈ (m.removeChildren q).entries ↔ e ∈ m.entries ∧ ¬ q.net <+: e.1.net := by
  rw [removeChildren_entries h, List.mem_filter, Bool.not_eq_true', Bool.eq_false_iff, ne_eq, contains_iff]

end PMap
