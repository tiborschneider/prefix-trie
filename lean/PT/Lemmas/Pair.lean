import PT.Lemmas.SetSpec
/-!
# Two well-formed subtrees side by side

The three `next_indices` run one decision tree on the two root prefixes (`cmpPfx`); its four outcomes are
characterised in terms of the network parts: equal, one strictly above the other, incomparable.  The six
`next_indices_first_*` are one function of the two children of the covering node (`firstG`).  `HasWF` and
`Related` (`SameRoot`, `Above`) are what the machines' invariants are made of; the last section says what a
node's entry list stores or covers for a key below one of its sides (`lookupK_side`, `coverK_side`, `lpmK_side`).
-/
namespace SetOps
variable {w : Nat} {R : Type}
open Tree Pfx

/-- the decision tree of `next_indices` -/
def cmpPfx {α : Type} (pa pb : Pfx w) (eq above below disj : α) : α :=
  if pa.len == pb.len then (if Pfx.maskEq pa pb then eq else disj)
  else if pa.contains pb then above else if pb.contains pa then below else disj

section cmp
variable {α : Type} {pa pb : Pfx w} {e a b d : α}

theorem cmpPfx_eq (h : pa.net = pb.net) : cmpPfx pa pb e a b d = e := by
  have hl := len_eq_of_net_eq h
  simp [cmpPfx, hl, (maskEq_iff_net hl).2 h]

theorem cmpPfx_above (h : pa.net <+: pb.net) (hne : pa.net ≠ pb.net) : cmpPfx pa pb e a b d = a := by
  simp [cmpPfx, len_ne_of_proper h hne, (Pfx.contains_iff pa pb).2 h]

theorem cmpPfx_below (h : pb.net <+: pa.net) (hne : pa.net ≠ pb.net) : cmpPfx pa pb e a b d = b := by
  have hl := len_ne_of_proper h (Ne.symm hne)
  have hc : ¬ pa.contains pb = true := fun hc =>
    hl (Nat.le_antisymm (len_le_of_prefix h) (len_le_of_prefix ((Pfx.contains_iff pa pb).1 hc)))
  simp [cmpPfx, Ne.symm hl, hc, (Pfx.contains_iff pb pa).2 h]

theorem cmpPfx_disj (h1 : ¬ pa.net <+: pb.net) (h2 : ¬ pb.net <+: pa.net) : cmpPfx pa pb e a b d = d := by
  have c1 : ¬ pa.contains pb = true := fun hc => h1 ((Pfx.contains_iff pa pb).1 hc)
  have c2 : ¬ pb.contains pa = true := fun hc => h2 ((Pfx.contains_iff pb pa).1 hc)
  by_cases hl : pa.len = pb.len
  · have hm : ¬ Pfx.maskEq pa pb = true := fun hm => h1 ((maskEq_iff_net hl).1 hm ▸ List.prefix_refl _)
    simp [cmpPfx, hl, hm]
  · simp [cmpPfx, hl, c1, c2]

theorem cmpPfx_sides {k : List Bool} {x : Bool} (ha : k ++ [x] <+: pa.net) (hb : k ++ [!x] <+: pb.net) :
    cmpPfx pa pb e a b d = d :=
  cmpPfx_disj (List.incomparable_of_sides ha hb).1 (List.incomparable_of_sides ha hb).2
end cmp

theorem cmpPfx_cases {α : Type} {pa pb : Pfx w} {e a b d : α} {motive : α → Prop}
    (heq : pa.net = pb.net → motive e) (habove : pa.net <+: pb.net → pa.net ≠ pb.net → motive a)
    (hbelow : pb.net <+: pa.net → pa.net ≠ pb.net → motive b)
    (hdisj : ¬ pa.net <+: pb.net → ¬ pb.net <+: pa.net → motive d) : motive (cmpPfx pa pb e a b d) := by
  by_cases he : pa.net = pb.net
  · rw [cmpPfx_eq he]; exact heq he
  · by_cases h1 : pa.net <+: pb.net
    · rw [cmpPfx_above h1 he]; exact habove h1 he
    · by_cases h2 : pb.net <+: pa.net
      · rw [cmpPfx_below h2 he]; exact hbelow h2 he
      · rw [cmpPfx_disj h1 h2]; exact hdisj h1 h2

/-- `[]` for `nil`.  No invariant uses it: they compare root keys through `Related`. -/
def rootNet {T : Type} (t : Tree w T) : List Bool :=
  match t.pfx? with
  | some p => p.net
  | none => []

/-- a well-formed subtree, under whatever key: what the node of any good view is (`C06.view_node_hasWF`) -/
def HasWF {T : Type} (t : Tree w T) : Prop := ∃ k, WF k t

variable {T : Type} {s : Nat} {p : Pfx w} {v : Option T} {l r : Tree w T}

theorem hasWF_nil : HasWF (Tree.nil : Tree w T) := ⟨[], trivial⟩

theorem HasWF.slotEntries_keyLt {t : Tree w T} (h : HasWF t) :
    t.slotEntries.Pairwise (fun x y => Spec.keyLt (keyOf x) (keyOf y) = true) :=
  h.elim fun _ hk => Tree.slotEntries_keyLt hk

theorem HasWF.child (h : HasWF (.node s p v l r)) : HasWF l ∧ HasWF r := by
  obtain ⟨k, hk⟩ := h; exact ⟨⟨_, hk.2.1⟩, ⟨_, hk.2.2⟩⟩

theorem HasWF.wf_child (h : HasWF (.node s p v l r)) (c : Bool) : WF (p.net ++ [c]) (Tree.child l r c) := by
  obtain ⟨k, hk⟩ := h; exact hk.of_child c

theorem HasWF.wf_of_prefix (h : HasWF (.node s p v l r)) {k : List Bool} (hk : k <+: p.net) :
    WF k (.node s p v l r) := by
  obtain ⟨k', hk'⟩ := h; exact ⟨hk, hk'.2.1, hk'.2.2⟩

theorem under_root (h : HasWF (.node s p v l r)) :
    Under p.net (Tree.node s p v l r).slotEntries ∧
    Under (p.net ++ [false]) l.slotEntries ∧ Under (p.net ++ [true]) r.slotEntries := by
  obtain ⟨k, hk⟩ := h
  exact ⟨under_slotEntries (WF.self hk), under_slotEntries hk.2.1, under_slotEntries hk.2.2⟩

theorem rootNet_node {T : Type} (s : Nat) (p : Pfx w) (v : Option T) (l r : Tree w T) :
    rootNet (Tree.node s p v l r) = p.net := rfl

theorem size_both_lt {U : Type} (s : Nat) (p : Pfx w) (v : Option T) (l r : Tree w T)
    (s' : Nat) (p' : Pfx w) (v' : Option U) (l' r' : Tree w U) :
    r.size + r'.size + (l.size + l'.size) + 1 ≤ (Tree.node s p v l r).size + (Tree.node s' p' v' l' r').size := by
  simp only [Tree.size]; omega

theorem size_above_lt (s : Nat) (p : Pfx w) (v : Option T) (l r : Tree w T) (n : Nat) :
    l.size + r.size + n + 1 ≤ (Tree.node s p v l r).size + n := by
  simp only [Tree.size]; omega

theorem size_child_lt (s : Nat) (p : Pfx w) (v : Option T) (l r : Tree w T) (c : Bool) :
    (Tree.child l r c).size < (Tree.node s p v l r).size := by
  cases c <;> simp only [Tree.size, child_true, child_false] <;> omega

theorem size_only_lt (s : Nat) (p : Pfx w) (v : Option T) (l r : Tree w T) :
    r.size + l.size + 1 ≤ (Tree.node s p v l r).size := by
  simp only [Tree.size]; omega

/-- two non-empty subtrees whose root keys are related by `P` -/
def Related {U : Type} (P : List Bool → List Bool → Prop) : Tree w T → Tree w U → Prop
  | .node _ p _ _ _, .node _ q _ _ _ => P p.net q.net
  | _, _ => False

theorem Related.nodes {U : Type} {P : List Bool → List Bool → Prop} {a : Tree w T} {b : Tree w U} (h : Related P a b) :
    ∃ sa pa va la ra sb pb vb lb rb, a = .node sa pa va la ra ∧ b = .node sb pb vb lb rb ∧ P pa.net pb.net := by
  cases a with
  | nil => exact h.elim
  | node sa pa va la ra =>
    cases b with
    | nil => exact h.elim
    | node sb pb vb lb rb => exact ⟨_, _, _, _, _, _, _, _, _, _, rfl, rfl, h⟩

abbrev SameRoot {U : Type} : Tree w T → Tree w U → Prop := Related (· = ·)

abbrev Above {U : Type} : Tree w T → Tree w U → Prop := Related (fun x y => x <+: y ∧ x ≠ y)

/-- the entry for a subtree walked on its own (nothing for `nil`) -/
def only {E : Type} (mk : Tree w T → E) : Tree w T → List E
  | .nil => []
  | .node s p v a b => [mk (.node s p v a b)]

theorem onlyChildren_eq {E : Type} (mk : Tree w T → E) (l r : Tree w T) :
    onlyChildren mk l r = only mk r ++ only mk l := rfl

/-- the common shape of the six `next_indices_first_*`, as a function of the two children of the
covering node: with one child, go on with it (`nx`); with two, go on with the one on side `c` and push
`on` of the other, so that the left child is popped first -/
def firstG {E : Type} (nx on : Tree w T → List E) (base : List E) (c : Bool) : Tree w T → Tree w T → List E
  | .nil, .nil => base
  | .nil, .node s p v a b => nx (.node s p v a b)
  | .node s p v a b, .nil => nx (.node s p v a b)
  | .node s p v a b, .node s' p' v' a' b' =>
    if c then nx (.node s' p' v' a' b') ++ on (.node s p v a b) else on (.node s' p' v' a' b') ++ nx (.node s p v a b)

/-- when going on with the child off side `c` amounts to `on` of it, the two-children branch describes
every shape -/
theorem firstG_eq {E : Type} {nx on : Tree w T → List E} {base : List E} {c : Bool} {l r : Tree w T}
    (hon : on .nil = []) (hb : nx .nil = base)
    (hl : c = true → nx l = base ++ on l) (hr : c = false → nx r = on r ++ base) :
    firstG nx on base c l r = if c then nx r ++ on l else on r ++ nx l := by
  cases c
  · cases l with
    | nil =>
      cases r with
      | nil => show base = on .nil ++ nx .nil; rw [hon, hb]; rfl
      | node s p v a b => show nx _ = on _ ++ nx .nil; rw [hb]; exact hr rfl
    | node s p v a b =>
      cases r with
      | nil => show nx _ = on .nil ++ nx _; rw [hon]; rfl
      | node s' p' v' a' b' => rfl
  · cases l with
    | nil =>
      cases r with
      | nil => show base = nx .nil ++ on .nil; rw [hon, hb, List.append_nil]
      | node s p v a b => show nx _ = nx _ ++ on .nil; rw [hon, List.append_nil]
    | node s p v a b =>
      cases r with
      | nil => show nx _ = nx .nil ++ on _; rw [hb]; exact hl rfl
      | node s' p' v' a' b' => rfl

theorem lookupK_side {s : Nat} {p : Pfx w} {v : Option R} {l r : Tree w R} (h : HasWF (.node s p v l r))
    (c : Bool) {k : List Bool} (hk : p.net ++ [c] <+: k) :
    lookupK (Tree.node s p v l r).slotEntries k = lookupK (child l r c).slotEntries k := by
  obtain ⟨_, hl, hr⟩ := under_root h
  rw [slotEntries_node, lookupK_append, lookupK_append,
    lookupK_eq_none_iff.2 (fun b hb e => List.ne_of_snoc_prefix hk (e.symm.trans (mem_ownS hb)))]
  cases c
  · rw [lookupK_eq_none_iff.2 (fun b hb (e : keyOf b = k) => (List.other_side hk).1 (e ▸ hr b hb :))]; simp
  · rw [lookupK_eq_none_iff.2 (fun b hb (e : keyOf b = k) => (List.other_side hk).1 (e ▸ hl b hb :))]; simp

theorem coverK_side {s : Nat} {pr : Pfx w} {v : Option R} {l r : Tree w R} (h : HasWF (.node s pr v l r))
    (c : Bool) {p : Pfx w} (hp : pr.net ++ [c] <+: p.net) :
    coverK (Tree.node s pr v l r).slotEntries p = ownS s pr v ++ coverK (child l r c).slotEntries p := by
  obtain ⟨_, hl, hr⟩ := under_root h
  rw [slotEntries_node, coverK_append, coverK_append]
  have hown : coverK (ownS s pr v) p = ownS s pr v := by
    cases v with
    | none => rfl
    | some y =>
      simp [coverK, ownS, (Pfx.contains_iff pr p).2 ((List.prefix_append _ _).trans hp)]
  rw [hown]
  cases c
  · rw [coverK_other_side (k := pr.net) (c := false) hr hp]; simp
  · rw [coverK_other_side (k := pr.net) (c := true) hl hp]; simp

theorem coverK_children {s : Nat} {pr : Pfx w} {l r : Tree w R} (h : HasWF (.node s pr none l r))
    {p : Pfx w} (hp : p.net <+: pr.net) : coverK (Tree.node s pr none l r).slotEntries p = [] := by
  obtain ⟨_, hl, hr⟩ := under_root h
  rw [slotEntries_node, coverK_append, coverK_append, coverK_below hl hp, coverK_below hr hp]; rfl

theorem orE_eq_or {α : Type} (a b : Option α) : orE a b = a.or b := by cases a <;> rfl

theorem orLpm_eq_or {T : Type} (t : Tree w T) (ann : Lpm w T) : orLpm t ann = t.pv.or ann := by
  unfold orLpm; cases t.pv <;> rfl

theorem orE_none_left {α : Type} (a : Option α) : orE none a = a := rfl
theorem orE_none_right {α : Type} (a : Option α) : orE a none = a := by rw [orE_eq_or, Option.or_none]

theorem orLpm_idem {T : Type} (t : Tree w T) (ann : Lpm w T) : orLpm t (orLpm t ann) = orLpm t ann := by
  rw [orLpm_eq_or, orLpm_eq_or, ← Option.or_assoc, Option.or_self]

theorem lpmK_side {s : Nat} {pr : Pfx w} {v : Option R} {l r : Tree w R} (h : HasWF (.node s pr v l r))
    (c : Bool) {p : Pfx w} (hp : pr.net ++ [c] <+: p.net) :
    lpmK (Tree.node s pr v l r).slotEntries p =
      (lpmK (child l r c).slotEntries p).or (Tree.node s pr v l r).pv := by
  unfold lpmK
  rw [coverK_side h c hp, List.getLast?_append, Option.map_or]
  cases v <;> rfl

theorem lpm_side_fold {s : Nat} {pr : Pfx w} {v : Option R} {l r : Tree w R} (h : HasWF (.node s pr v l r))
    (c : Bool) {p : Pfx w} (hp : pr.net ++ [c] <+: p.net) {ann : Lpm w R}
    (hfold : orLpm (Tree.node s pr v l r) ann = ann) :
    orE (lpmK (Tree.node s pr v l r).slotEntries p) ann = orE (lpmK (child l r c).slotEntries p) ann := by
  rw [orE_eq_or, orE_eq_or, lpmK_side h c hp, Option.or_assoc, ← orLpm_eq_or, hfold]

theorem root_mem_coverK {s : Nat} {pr : Pfx w} {y : R} {l r : Tree w R} {p : Pfx w} (hp : pr.net <+: p.net) :
    (s, pr, y) ∈ coverK (Tree.node s pr (some y) l r).slotEntries p :=
  List.mem_filter.2 ⟨by simp [slotEntries], (Pfx.contains_iff pr p).2 hp⟩

/-- the root value of a node is already a covering entry for everything under the node, so folding
it into the inherited annotation changes nothing there -/
theorem ann_fold_absorb {T : Type} {s : Nat} {pr : Pfx w} {v : Option T} {l r : Tree w T} (ann : Lpm w T)
    {p : Pfx w} (hp : pr.net <+: p.net) :
    annOf (Tree.node s pr v l r).slotEntries (orLpm (Tree.node s pr v l r) ann) p =
      annOf (Tree.node s pr v l r).slotEntries ann p := by
  unfold annOf
  cases v with
  | none => rfl
  | some y =>
    have hmem := root_mem_coverK (s := s) (y := y) (l := l) (r := r) hp
    unfold lpmK
    cases hg : (coverK (Tree.node s pr (some y) l r).slotEntries p).getLast? with
    | none => rw [List.getLast?_eq_none_iff] at hg; rw [hg] at hmem; simp at hmem
    | some b => rfl

end SetOps
