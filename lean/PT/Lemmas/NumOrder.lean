import PT.Lemmas.MaskOrder
/-!
# The iteration order in numbers: ascending by network address, then by prefix length

`Spec.keyLt` on network parts, padded to the full width (`MaskOrder`), is the order of the masked
representations as unsigned integers, ties broken by length (`keyLt_iff_numeric`).
-/
namespace Pfx
variable {w : Nat}

theorem keyLt_iff_numeric (a b : Pfx w) :
    Spec.keyLt a.net b.net = true ↔ a.mask.toNat < b.mask.toNat ∨ (a.mask = b.mask ∧ a.len < b.len) := by
  have := Spec.keyLt_iff_pad ((net_length_pad a).trans (net_length_pad b).symm)
  rw [net_length, net_length] at this
  rw [this, toNat_lt_iff, ← top_inj, top_mask, top_mask]

end Pfx
