import PT.Lemmas.Insert
import PT.Lemmas.Remove
import PT.Lemmas.Shape
/-!
# The map's shape invariant `TreeWF`

A mutator keeps it when it leaves slot and key of the root node alone (`rootKey`) and keeps the tree
well-formed (`TreeWF.of_rootKey`).
-/
namespace Tree
variable {w : Nat} {V : Type}

/-- what the map-level mutators must leave alone -/
def rootKey : Tree w V → Option (Nat × List Bool)
  | nil => none
  | node s p _ _ _ => some (s, p.net)

theorem rootKey_setChild (s : Nat) (p : Pfx w) (v : Option V) (l r c : Tree w V) (b : Bool) :
    (setChild s p v l r b c).rootKey = some (s, p.net) := by cases b <;> rfl

theorem insert_rootKey (t : Tree w V) (hn : t ≠ nil) (q : Pfx w) (x : V) (s1 s2 : Nat) :
    (insert t q x s1 s2).t.rootKey = t.rootKey := by
  cases t with
  | nil => exact absurd rfl hn
  | node s p v l r =>
    rw [insert_node]
    match dirCase p l r q with
    | .reached (hi := hi) (hpq := hpq) .. => rw [hi]; simp only [rootKey, hpq]
    | .enter (hi := hi) .. | .newLeaf (hi := hi) .. | .newChild (hi := hi) .. | .newBranch (hi := hi) .. =>
      rw [hi]; exact rootKey_setChild ..

/-- `remove` with `hasPar = false` (the map's root) never replaces the root node -/
theorem remove_rootKey (t : Tree w V) (q : Pfx w) : (remove t q false).t.rootKey = t.rootKey := by
  cases t with
  | nil => rfl
  | node s p v l r =>
    rw [remove_node]
    cases getDir p l r q with
    | reached => cases l <;> cases r <;> rfl
    | enter b => simp only [afterChild, Bool.and_false, Bool.false_and]; exact rootKey_setChild ..
    | missing => rfl

theorem rootKey_of_skel {V' : Type} {t : Tree w V} {t' : Tree w V'} (h : PT.C15.skel t = PT.C15.skel t') :
    t.rootKey = t'.rootKey :=
  match t, t', h with
  | .nil, .nil, _ => rfl
  | .node .., .node .., h => by injection h with hs hp; rw [rootKey, rootKey, hs, hp]

end Tree

namespace PMap
variable {w : Nat} {V : Type}
open Tree

/-- shape invariant of a map: slot 0 is the root, it carries the zero-length prefix, and the tree
below it is well-formed (`Tree.WF`): every child strictly longer than, covered by, and on the side
selected by the next bit of its parent -/
structure TreeWF (m : PMap w V) : Prop where
  root : ∃ p v l r, m.root = .node 0 p v l r ∧ p.net = []
  wf : Tree.WF [] m.root

theorem TreeWF.rootCovers {m : PMap w V} (h : m.TreeWF) (q : Pfx w) : RootCovers m.root q := by
  obtain ⟨p, v, l, r, hr, hp⟩ := h.root
  rw [hr]; exact RootCovers.node (hp ▸ List.nil_prefix)

theorem TreeWF.root_ne_nil {m : PMap w V} (h : m.TreeWF) : m.root ≠ .nil := by
  obtain ⟨p, v, l, r, hr, _⟩ := h.root
  rw [hr]; simp

theorem TreeWF.root_pfx {m : PMap w V} (h : m.TreeWF) : ∀ p, m.root.pfx? = some p → p.net = [] := by
  obtain ⟨p, v, l, r, hr, hp⟩ := h.root
  intro p' hp'; rw [hr] at hp'; simp [pfx?] at hp'; subst hp'; exact hp

theorem empty_treeWF : (empty : PMap w V).TreeWF :=
  ⟨⟨Pfx.zero, none, .nil, .nil, rfl, Pfx.zero_net⟩, ⟨by simp [Pfx.zero_net], trivial, trivial⟩⟩

theorem empty_entries : (empty : PMap w V).entries = [] := rfl

theorem TreeWF.of_rootKey {m m' : PMap w V} (h : m.TreeWF) (hk : m'.root.rootKey = m.root.rootKey)
    (hwf : Tree.WF [] m'.root) : m'.TreeWF := by
  obtain ⟨p, v, l, r, hr, hp⟩ := h.root
  rw [hr] at hk
  cases hm : m'.root with
  | nil => rw [hm] at hk; cases hk
  | node s' p' v' l' r' =>
    rw [hm] at hk
    simp only [rootKey, Option.some.injEq, Prod.mk.injEq] at hk
    exact ⟨⟨p', v', l', r', hk.1 ▸ hm, hk.2.trans hp⟩, hwf⟩

theorem insert_treeWF {m : PMap w V} (h : m.TreeWF) (q : Pfx w) (x : V) : (m.insert q x).1.TreeWF :=
  h.of_rootKey (insert_rootKey _ h.root_ne_nil ..) (insert_wf h.wf q x _ _ (h.rootCovers q))

theorem remove_treeWF {m : PMap w V} (h : m.TreeWF) (q : Pfx w) : (m.remove q).1.TreeWF :=
  h.of_rootKey (remove_rootKey ..) (remove_wf h.wf q false)

theorem TreeWF.of_skel {m : PMap w V} (h : m.TreeWF) {t' : Tree w V} (hs : PT.C15.skel t' = PT.C15.skel m.root)
    (f : List Nat) (a c : Nat) : (⟨t', f, a, c⟩ : PMap w V).TreeWF :=
  h.of_rootKey (rootKey_of_skel hs) (h.wf.of_skel hs)

theorem removeKeepTree_treeWF {m : PMap w V} (h : m.TreeWF) (q : Pfx w) : (m.removeKeepTree q).1.TreeWF :=
  h.of_skel (skel_takeValue m.root q) _ _ _

theorem modify_treeWF {m : PMap w V} (h : m.TreeWF) (q : Pfx w) (f : V → V) : (m.modify q f).TreeWF :=
  h.of_skel (skel_modifyValue m.root q f) _ _ _

theorem getLpm_eq_covering {m : PMap w V} (h : m.TreeWF) (q : Pfx w) :
    m.getLpm q = (covering m.root q).getLast? := by
  rw [getLpm, Tree.getLpm_eq_covering h.wf q none (h.rootCovers q), Option.or_none]

theorem insert_mem {m : PMap w V} (h : m.TreeWF) (q : Pfx w) (x : V) (e : Pfx w × V) :
    e ∈ (m.insert q x).1.entries ↔ e = (q, x) ∨ (e ∈ m.entries ∧ e.1.net ≠ q.net) :=
  Tree.insert_mem h.wf q x _ _ h.root_ne_nil e

theorem orInsert_fst (m : PMap w V) (q : Pfx w) (x : V) :
    (m.orInsert q x).1 = if (m.root.get q).isSome then m else (m.insert q x).1 := by
  unfold orInsert; cases m.root.get q <;> rfl

end PMap
