import PT.Lemmas.KeyOrder
import PT.Lemmas.Bits
/-!
# The abstract map on its own: what the operations of `PT/Spec.lean` do to a key-sorted list

Which entries `erase`, `update` and `collect` leave (`mem_*`, no hypothesis on the list), that they
keep the list key-sorted (`Sorted.*`), what `lookup` finds, and the arg-max / arg-min folds on a list
sorted by length.  Nothing here mentions trees.
-/
namespace Spec
variable {w : Nat} {V : Type}

@[simp] theorem sameKey_iff {p q : Pfx w} : sameKey p q = true ↔ p.net = q.net := by
  simp [sameKey, key]

@[simp] theorem covers_iff {a b : Pfx w} : covers a b = true ↔ a.net <+: b.net :=
  List.isPrefixOf_iff_prefix

theorem covers_eq_contains (a b : Pfx w) : covers a b = a.contains b := by
  rw [Bool.eq_iff_iff, covers_iff, Pfx.contains_iff]

theorem sameKey_eq_eqv (a b : Pfx w) : sameKey a b = a.eqv b := by
  rw [Bool.eq_iff_iff, sameKey_iff, Pfx.eqv_iff]

theorem mem_insertSorted {e x : Pfx w × V} {s : SMap w V} : x ∈ insertSorted e s ↔ x = e ∨ x ∈ s := by
  induction s with
  | nil => simp [insertSorted]
  | cons y ys ih =>
    unfold insertSorted
    split
    · simp
    · simp only [List.mem_cons, ih, or_left_comm]

theorem mem_erase {s : SMap w V} {q : Pfx w} {e : Pfx w × V} : e ∈ erase s q ↔ e ∈ s ∧ e.1.net ≠ q.net := by
  simp only [erase, List.mem_filter, Bool.not_eq_true', Bool.eq_false_iff, ne_eq, sameKey_iff]

theorem mem_update {s : SMap w V} {q : Pfx w} {x : V} {e : Pfx w × V} :
    e ∈ update s q x ↔ e = (q, x) ∨ (e ∈ s ∧ e.1.net ≠ q.net) := by
  rw [update, mem_insertSorted, mem_erase]

/-- folding `update` over a list in which a later entry with the key of an earlier one repeats it
adds exactly the list's members -/
theorem mem_foldl_update (xs : List (Pfx w × V)) : ∀ (s : SMap w V),
    (∀ a ∈ s, ∀ b ∈ xs, a.1.net = b.1.net → a = b) → xs.Pairwise (fun a b => a.1.net = b.1.net → a = b) →
    ∀ e, e ∈ xs.foldl (fun s e => update s e.1 e.2) s ↔ e ∈ s ∨ e ∈ xs := by
  induction xs with
  | nil => intro s _ _ e; simp
  | cons y ys ih =>
    intro s hs hx e
    have ⟨hy, hys⟩ := List.pairwise_cons.1 hx
    rw [List.foldl_cons, ih _ (fun a ha b hb => ?_) hys, mem_update]
    · constructor
      · rintro ((rfl | h) | h)
        · exact .inr (List.mem_cons_self ..)
        · exact .inl h.1
        · exact .inr (List.mem_cons_of_mem _ h)
      · rintro (h | h)
        · by_cases hk : e.1.net = y.1.net
          · exact .inl (.inl (hs e h y (List.mem_cons_self ..) hk))
          · exact .inl (.inr ⟨h, hk⟩)
        · exact (List.mem_cons.1 h).elim (fun h => .inl (.inl h)) .inr
    · rcases mem_update.1 ha with rfl | ha
      · exact hy b hb
      · exact hs a ha.1 b (List.mem_cons_of_mem _ hb)

theorem mem_collect {xs : List (Pfx w × V)} (hf : xs.Pairwise (fun a b => a.1.net = b.1.net → a = b))
    (e : Pfx w × V) : e ∈ collect xs ↔ e ∈ xs :=
  (mem_foldl_update xs [] (fun _ h => nomatch h) hf e).trans (or_iff_right List.not_mem_nil)

theorem Sorted.insertSorted {s : SMap w V} (hs : Sorted s) {e : Pfx w × V}
    (hne : ∀ x ∈ s, x.1.net ≠ e.1.net) : Sorted (insertSorted e s) := by
  induction s with
  | nil => simp [Spec.insertSorted]
  | cons y ys ih =>
    have ⟨hy, hys⟩ := List.pairwise_cons.1 hs
    unfold Spec.insertSorted
    split
    · next hlt =>
      exact List.pairwise_cons.2 ⟨fun x hx => (List.mem_cons.1 hx).elim (· ▸ hlt) (keyLt_trans hlt <| hy x ·), hs⟩
    · next hlt =>
      refine List.pairwise_cons.2 ⟨fun x hx => ?_, ih hys fun x hx => hne x (List.mem_cons_of_mem _ hx)⟩
      rcases mem_insertSorted.1 hx with rfl | hx
      · exact keyLt_total (hne y (List.mem_cons_self ..)).symm (by simpa using hlt)
      · exact hy x hx

theorem Sorted.erase {s : SMap w V} (hs : Sorted s) (q : Pfx w) : Sorted (erase s q) := hs.filter _

theorem Sorted.update {s : SMap w V} (hs : Sorted s) (q : Pfx w) (x : V) : Sorted (update s q x) :=
  (hs.erase q).insertSorted fun _ hy => (mem_erase.1 hy).2

theorem lookup_eq_some_iff {s : SMap w V} (hs : Sorted s) (q : Pfx w) (e : Pfx w × V) :
    lookup s q = some e ↔ e ∈ s ∧ e.1.net = q.net := by
  have sound : ∀ {e}, lookup s q = some e → e ∈ s ∧ e.1.net = q.net := fun h =>
    ⟨List.mem_of_find?_eq_some h, sameKey_iff.1 (List.find?_some (p := fun e : Pfx w × V => sameKey e.1 q) h)⟩
  refine ⟨sound, fun ⟨hm, hk⟩ => ?_⟩
  obtain ⟨e', he'⟩ : ∃ e', lookup s q = some e' :=
    Option.isSome_iff_exists.1 (List.find?_isSome.2 ⟨e, hm, sameKey_iff.2 hk⟩)
  rw [he', List.Pairwise.eq_of_key_eq (R := fun a b => keyLt a b = true) (f := fun e : Pfx w × V => key e.1)
    (fun _ h => keyLt_ne h rfl) hs (sound he').1 hm ((sound he').2.trans hk.symm)]

theorem fold_longest_eq_getLast (xs : List (Pfx w × V)) (h : xs.Pairwise (fun a b => a.1.len < b.1.len)) :
    ∀ init : Option (Pfx w × V), (∀ b, init = some b → ∀ x ∈ xs, b.1.len < x.1.len) →
    xs.foldl pickLonger init = xs.getLast?.or init := by
  induction xs with
  | nil => intro init _; rfl
  | cons x xs ih =>
    intro init hinit
    have ⟨hx, hxs⟩ := List.pairwise_cons.1 h
    have step : pickLonger init x = some x := by
      cases init with
      | none => rfl
      | some b => simp [pickLonger, hinit b rfl x (List.mem_cons_self ..)]
    rw [List.foldl_cons, step, ih hxs (some x) (fun b hb => Option.some.inj hb ▸ hx), List.getLast?_cons]
    cases xs.getLast? <;> rfl

theorem fold_shortest_eq_head (xs : List (Pfx w × V)) (h : xs.Pairwise (fun a b => a.1.len < b.1.len)) :
    xs.foldl pickShorter none = xs.head? := by
  cases xs with
  | nil => rfl
  | cons x xs =>
    exact List.foldlRecOn (motive := (· = some x)) xs _ rfl fun b hb y hy => by
      simp [hb, pickShorter, Nat.lt_asymm ((List.pairwise_cons.1 h).1 y hy)]

end Spec
