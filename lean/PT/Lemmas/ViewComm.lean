import PT.Lemmas.Interleave
import PT.Lemmas.ViewWrites
/-!
# Value writes through mutable views at different nodes commute

Two writes `PMap.writeAt` at different paths commute on every state satisfying the invariant
(`writeAt_comm`), so any interleaving of two threads' write sequences ends in the state of running one
thread after the other (`view_writes_interleave`), provided no path of one thread is a path of the other.
That proviso (`hdis`) is a hypothesis: nothing here derives it from the threads' views being the two sides
of a node or lying at different keys.
-/
namespace Tree
variable {w : Nat} {V : Type}

theorem sub_setAt_isNil (t : Tree w V) (p q : List Bool) (nv : Option V) :
    ((setAt t p nv).sub q).isNil = (t.sub q).isNil :=
  isNil_of_skel (sub_of_skel (skel_setAt t p nv) q)

theorem value_sub_setAt (t : Tree w V) {p q : List Bool} (h : p ≠ q) (nv : Option V) :
    ((setAt t p nv).sub q).value? = (t.sub q).value? := by
  induction t, q using sub_induction generalizing p with
  | here t =>
    cases p with
    | nil => exact absurd rfl h
    | cons d ds =>
      rw [sub_nil, sub_nil]
      cases t with
      | nil => rw [setAt_nil_tree]
      | node s pf v l r => rw [setAt_cons]; cases d <;> rfl
  | nil c cs => rw [setAt_nil_tree]
  | step s pf v l r c cs ih =>
    cases p with
    | nil => rw [setAt_nil]; rfl
    | cons d ds =>
      rw [setAt_cons, sub_setChild, sub_cons_node]
      by_cases hcd : c = d
      · subst hcd; rw [if_pos rfl]; exact ih fun e => h (by rw [e])
      · rw [if_neg hcd]

theorem setAt_nil_comm (t : Tree w V) (c : Bool) (cs : List Bool) (a b : Option V) :
    setAt (setAt t [] a) (c :: cs) b = setAt (setAt t (c :: cs) b) [] a := by
  cases t with
  | nil => rfl
  | node s pf v l r => rw [setAt_nil, setAt_cons, setAt_nil]; cases c <;> rfl

theorem setAt_comm (t : Tree w V) {p q : List Bool} (h : p ≠ q) (a b : Option V) :
    setAt (setAt t p a) q b = setAt (setAt t q b) p a := by
  induction p generalizing t q with
  | nil =>
    cases q with
    | nil => exact absurd rfl h
    | cons c cs => exact setAt_nil_comm t c cs a b
  | cons d ds ih =>
    cases q with
    | nil => exact (setAt_nil_comm t d ds b a).symm
    | cons c cs =>
      cases t with
      | nil => rfl
      | node s pf v l r =>
        rw [setAt_cons, setAt_cons]
        cases d <;> cases c <;> simp only [setChild_false, setChild_true, setAt_cons, child_false, child_true]
        · rw [ih l fun e => h (by rw [e])]
        · rw [ih r fun e => h (by rw [e])]

end Tree

namespace PMap
variable {w : Nat} {V : Type}
open Tree

theorem writeAt_comm {m : PMap w V} (h : m.Inv) {p q : List Bool} (hpq : p ≠ q)
    (hp : (m.root.sub p).isNil = false) (hq : (m.root.sub q).isNil = false) (a b : Option V) :
    (m.writeAt p a).writeAt q b = (m.writeAt q b).writeAt p a := by
  -- the trees commute (`setAt_comm`); the counters need no computation: both sides satisfy `Inv`, and a
  -- state with the invariant is determined by tree, free list and arena length (`Inv.ext`)
  have h1 : ((m.writeAt p a).writeAt q b).Inv :=
    writeAt_inv (writeAt_inv h hp a) (by show ((setAt m.root p a).sub q).isNil = false; rw [sub_setAt_isNil]; exact hq) b
  have h2 : ((m.writeAt q b).writeAt p a).Inv :=
    writeAt_inv (writeAt_inv h hq b) (by show ((setAt m.root q b).sub p).isNil = false; rw [sub_setAt_isNil]; exact hp) a
  exact h1.ext h2 (setAt_comm m.root hpq a b) rfl rfl

def applyViewWrites (m : PMap w V) (ws : List (List Bool × Option V)) : PMap w V :=
  ws.foldl (fun m x => m.writeAt x.1 x.2) m

def SameNodes (m m' : PMap w V) : Prop :=
  m'.Inv ∧ ∀ q, (m'.root.sub q).isNil = (m.root.sub q).isNil

theorem writeAt_sameNodes {m m' : PMap w V} (x : List Bool × Option V) (h : SameNodes m m')
    (hx : (m.root.sub x.1).isNil = false) : SameNodes m (m'.writeAt x.1 x.2) :=
  ⟨writeAt_inv h.1 (h.2 _ ▸ hx) x.2, fun q => (sub_setAt_isNil m'.root x.1 q x.2).trans (h.2 q)⟩

theorem applyViewWrites_inv {m : PMap w V} (h : m.Inv) (ws : List (List Bool × Option V))
    (hws : ∀ y ∈ ws, (m.root.sub y.1).isNil = false) :
    (applyViewWrites m ws).Inv ∧ ∀ q, ((applyViewWrites m ws).root.sub q).isNil = (m.root.sub q).isNil :=
  List.foldlRecOn (motive := SameNodes m) ws _ ⟨h, fun _ => rfl⟩ fun _ h x hx => writeAt_sameNodes x h (hws x hx)

theorem view_writes_interleave {m : PMap w V} (h : m.Inv) {w1 w2 ws : List (List Bool × Option V)}
    (hi : Tree.Interleave w1 w2 ws)
    (h1 : ∀ x ∈ w1, (m.root.sub x.1).isNil = false) (h2 : ∀ y ∈ w2, (m.root.sub y.1).isNil = false)
    (hdis : ∀ x ∈ w1, ∀ y ∈ w2, x.1 ≠ y.1) :
    applyViewWrites m ws = applyViewWrites m (w1 ++ w2) :=
  hi.foldl_eq (ok := SameNodes m) (R := fun x y => x.1 ≠ y.1) (fun _ x h hx => writeAt_sameNodes x h hx)
    (fun _ x y h hx hy hne => writeAt_comm h.1 hne (h.2 _ ▸ hx) (h.2 _ ▸ hy) x.2 y.2) h1 h2 hdis
    ⟨h, fun _ => rfl⟩

end PMap
