import PT.Lemmas.Order
import PT.Lemmas.Inv
/-!
# `retain` as a fold over a subtree

`foldF f hp cs t`: apply `remove · q hp` for every rejected call `q` of `cs`, in order, to the subtree
`t` (whose parent exists iff `hp`), collecting freed slots and the number of removed values; `leaf`
is the flag of the last call's removal.  `PMap.retain` is this fold at the root (`retain_eq_foldF`).
-/
namespace Tree
variable {w : Nat} {V : Type}

/-- what `_retain` leaves at a position: the subtree standing there, whether the last `_remove_node`
removed it as a leaf, the slots freed and the number of values removed so far -/
structure FoldAcc (w : Nat) (V : Type) where
  t : Tree w V
  leaf : Bool
  freed : List Nat
  removed : Nat

/-- one call of the predicate.  A kept entry lowers `leaf`: the flag speaks of the last call only, and the
parent frame collapses only if that call removed the child (`foldFrom_lift` rests on this) -/
def foldStep (f : Pfx w → V → Bool) (hp : Bool) (acc : FoldAcc w V) (e : Pfx w × V) : FoldAcc w V :=
  if f e.1 e.2 then { acc with leaf := false }
  else
    let r := remove acc.t e.1 hp
    ⟨r.t, r.leaf, acc.freed ++ r.freed, acc.removed + (if r.val.isSome then 1 else 0)⟩

def foldFrom (f : Pfx w → V → Bool) (hp : Bool) (acc : FoldAcc w V) (cs : List (Pfx w × V)) : FoldAcc w V :=
  cs.foldl (foldStep f hp) acc

def foldF (f : Pfx w → V → Bool) (hp : Bool) (cs : List (Pfx w × V)) (t : Tree w V) : FoldAcc w V :=
  foldFrom f hp ⟨t, false, [], 0⟩ cs

variable {f : Pfx w → V → Bool} {hp : Bool}

theorem foldFrom_cons (a : FoldAcc w V) (e : Pfx w × V) (cs : List (Pfx w × V)) :
    foldFrom f hp a (e :: cs) = foldFrom f hp (foldStep f hp a e) cs := rfl

theorem foldF_append (xs ys : List (Pfx w × V)) (t : Tree w V) :
    foldF f hp (xs ++ ys) t = foldFrom f hp (foldF f hp xs t) ys := List.foldl_append ..

/-- an accumulator `a` followed by a fold `b` that started from scratch on `a.t` -/
def FoldAcc.seq (a b : FoldAcc w V) : FoldAcc w V := ⟨b.t, b.leaf, a.freed ++ b.freed, a.removed + b.removed⟩

theorem foldFrom_seq (t : Tree w V) (F : List Nat) (R : Nat) (cs : List (Pfx w × V)) :
    foldFrom f hp ⟨t, false, F, R⟩ cs = FoldAcc.seq ⟨t, false, F, R⟩ (foldF f hp cs t) := by
  have h0 : (⟨t, false, F, R⟩ : FoldAcc w V) = FoldAcc.seq ⟨t, false, F, R⟩ ⟨t, false, [], 0⟩ := by
    rw [FoldAcc.seq, List.append_nil, Nat.add_zero]
  rw [foldF, foldFrom, foldFrom]
  conv => lhs; rw [h0]
  exact List.foldl_hom (FoldAcc.seq ⟨t, false, F, R⟩ ·) fun b e => by
    unfold foldStep FoldAcc.seq
    by_cases hf : f e.1 e.2 = true
    · rw [if_pos hf, if_pos hf]
    · rw [if_neg hf, if_neg hf]; simp only [List.append_assoc, Nat.add_assoc]

theorem foldF_wf {k : List Bool} {t : Tree w V} (h : WF k t) (cs : List (Pfx w × V)) :
    WF k (foldF f hp cs t).t :=
  List.foldlRecOn (motive := fun a : FoldAcc w V => WF k a.t) cs _ h
    fun a ha e _ => by unfold foldStep; split; exact ha; exact remove_wf ha e.1 hp

theorem foldFrom_mem {k : List Bool} (cs : List (Pfx w × V)) {a : FoldAcc w V} (h : WF k a.t) (e : Pfx w × V) :
    e ∈ (foldFrom f hp a cs).t.entries ↔
      e ∈ a.t.entries ∧ ∀ x ∈ cs, f x.1 x.2 = false → e.1.net ≠ x.1.net := by
  induction cs generalizing a with
  | nil => simp [foldFrom]
  | cons x cs ih =>
    rw [foldFrom_cons]; unfold foldStep
    rw [List.forall_mem_cons]
    cases hf : f x.1 x.2
    · rw [if_neg Bool.false_ne_true, ih (remove_wf h x.1 hp), remove_mem h, and_assoc, imp_iff_right rfl]
    · rw [if_pos rfl, ih (a := { a with leaf := false }) h, and_iff_right (fun h => nomatch h)]

theorem postorder_node (s : Nat) (p : Pfx w) (v : Option V) (l r : Tree w V) :
    (node s p v l r).postorder = l.postorder ++ r.postorder ++ own p v := by
  cases v <;> rfl

theorem postorder_perm (t : Tree w V) : t.postorder.Perm t.entries := by
  induction t with
  | nil => exact .refl _
  | node s p v l r ihl ihr =>
    rw [entries_node, postorder_node, List.append_assoc (own p v)]
    exact List.perm_append_comm.trans (.append_left _ (ihl.append ihr))

theorem mem_postorder_iff (t : Tree w V) (e : Pfx w × V) : e ∈ t.postorder ↔ e ∈ t.entries :=
  (postorder_perm t).mem_iff

theorem postorder_keys_distinct {k : List Bool} {t : Tree w V} (h : WF k t) :
    t.postorder.Pairwise (fun a b => a.1.net ≠ b.1.net) := by
  rw [List.Perm.pairwise_iff (fun h => Ne.symm h) (postorder_perm t)]; exact entries_keys_pairwise h

end Tree

namespace PMap
variable {w : Nat} {V : Type}
open Tree

def liftAcc (m : PMap w V) (a : FoldAcc w V) : PMap w V := ⟨a.t, m.free ++ a.freed, m.alloc, m.count - a.removed⟩

theorem foldl_retainStep_liftAcc (m0 : PMap w V) (f : Pfx w → V → Bool) (cs : List (Pfx w × V)) (a : FoldAcc w V) :
    cs.foldl (retainStep f) (liftAcc m0 a) = liftAcc m0 (foldFrom f false a cs) :=
  List.foldl_hom (liftAcc m0) fun a e => by
    unfold retainStep foldStep
    split
    · rfl
    · unfold PMap.remove withRem liftAcc
      simp only [List.append_assoc]
      congr 1
      split <;> rfl

theorem liftAcc_init (m : PMap w V) : liftAcc m ⟨m.root, false, [], 0⟩ = m := by
  simp [liftAcc]

theorem retain_eq_foldF (m : PMap w V) (f : Pfx w → V → Bool) (stop : Option Nat) :
    m.retain f stop = liftAcc m (foldF f false (m.retainCalls stop) m.root) := by
  rw [foldF, ← foldl_retainStep_liftAcc, liftAcc_init]; rfl

theorem foldl_retainStep_mem {m : PMap w V} (h : m.TreeWF) (f : Pfx w → V → Bool) (calls : List (Pfx w × V))
    (e : Pfx w × V) :
    e ∈ (calls.foldl (retainStep f) m).entries ↔
      e ∈ m.entries ∧ ∀ c ∈ calls, f c.1 c.2 = false → e.1.net ≠ c.1.net := by
  have := foldl_retainStep_liftAcc m f calls ⟨m.root, false, [], 0⟩
  rw [liftAcc_init] at this
  rw [this]; exact foldFrom_mem calls (a := ⟨m.root, false, [], 0⟩) h.wf e

theorem retain_mem {m : PMap w V} (h : m.TreeWF) (f : Pfx w → V → Bool) (e : Pfx w × V) :
    e ∈ (m.retain f).entries ↔ e ∈ m.entries ∧ f e.1 e.2 = true := by
  unfold retain retainCalls
  rw [foldl_retainStep_mem h f _ e]
  constructor
  · rintro ⟨h1, h2⟩
    refine ⟨h1, ?_⟩
    cases hf : f e.1 e.2 with
    | true => rfl
    | false => exact absurd rfl (h2 e ((mem_postorder_iff _ _).2 h1) hf)
  · rintro ⟨h1, h2⟩
    refine ⟨h1, fun c hc hfc heq => ?_⟩
    have := WF.key_inj h.wf h1 ((mem_postorder_iff _ _).1 hc) heq
    subst this
    rw [h2] at hfc; cases hfc

end PMap
