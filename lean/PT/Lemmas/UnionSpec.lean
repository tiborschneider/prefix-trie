import PT.Lemmas.SetSpec
/-!
# Specification of `union`: sorted merge of two keyed entry lists

Unlike the three filters, the merge has no equation per entry of `A`: it is taken apart at key boundaries
(`Sep`, `unionS_split`, `unionS_left_first`), and its annotation functions matter only on the prefixes of
the respective list (`unionS_congr`).
-/
namespace SetOps
variable {w : Nat} {L R : Type}

variable (fL : Pfx w → Lpm w R) (fR : Pfx w → Lpm w L)

theorem unionS_nil_left (bs : KL w R) : unionS fL fR ([] : KL w L) bs = bs.map (mkRight fR) := by
  unfold unionS; rfl

theorem unionS_nil_right (as : KL w L) : unionS fL fR as ([] : KL w R) = as.map (mkLeft fL) := by
  cases as with
  | nil => rw [unionS_nil_left]; rfl
  | cons a as => unfold unionS; rfl

theorem unionS_cons_cons (a : Nat × Pfx w × L) (as : KL w L) (b : Nat × Pfx w × R) (bs : KL w R) :
    unionS fL fR (a :: as) (b :: bs) =
      if keyOf a = keyOf b then .both a.2.1 (a.1, a.2.2) (b.1, b.2.2) :: unionS fL fR as bs
      else if Spec.keyLt (keyOf a) (keyOf b) then mkLeft fL a :: unionS fL fR as (b :: bs)
      else mkRight fR b :: unionS fL fR (a :: as) bs := by
  rw [unionS]

variable {fL fR}

theorem mem_unionS {A : KL w L} {B : KL w R} {u : UV w L R} (h : u ∈ unionS fL fR A B) :
    (∃ a ∈ A, u = mkLeft fL a) ∨ (∃ b ∈ B, u = mkRight fR b) ∨
      ∃ a ∈ A, ∃ b ∈ B, keyOf a = keyOf b ∧ u = .both a.2.1 (a.1, a.2.2) (b.1, b.2.2) := by
  -- stated for super-lists, so that the recursion goes through
  suffices H : ∀ (A' : KL w L) (B' : KL w R), (∀ x ∈ A, x ∈ A') → (∀ y ∈ B, y ∈ B') →
      ((∃ a ∈ A', u = mkLeft fL a) ∨ (∃ b ∈ B', u = mkRight fR b) ∨
        ∃ a ∈ A', ∃ b ∈ B', keyOf a = keyOf b ∧ u = .both a.2.1 (a.1, a.2.2) (b.1, b.2.2)) from
    H A B (fun _ h => h) (fun _ h => h)
  intro A' B' hA hB
  fun_induction unionS fL fR A B with
  | case1 bs => obtain ⟨b, hb, rfl⟩ := List.mem_map.1 h; exact .inr (.inl ⟨b, hB b hb, rfl⟩)
  | case2 a as => obtain ⟨x, hx, rfl⟩ := List.mem_map.1 h; exact .inl ⟨x, hA x hx, rfl⟩
  | case3 a as b bs hk ih =>
    rcases List.mem_cons.1 h with rfl | h
    · exact .inr (.inr ⟨a, hA a (List.mem_cons_self ..), b, hB b (List.mem_cons_self ..), hk, rfl⟩)
    · exact ih h (fun x hx => hA x (List.mem_cons_of_mem _ hx)) (fun y hy => hB y (List.mem_cons_of_mem _ hy))
  | case4 a as b bs _ _ ih =>
    rcases List.mem_cons.1 h with rfl | h
    · exact .inl ⟨a, hA a (List.mem_cons_self ..), rfl⟩
    · exact ih h (fun x hx => hA x (List.mem_cons_of_mem _ hx)) hB
  | case5 a as b bs _ _ ih =>
    rcases List.mem_cons.1 h with rfl | h
    · exact .inr (.inl ⟨b, hB b (List.mem_cons_self ..), rfl⟩)
    · exact ih h hA (fun y hy => hB y (List.mem_cons_of_mem _ hy))

/-- every key of the first pair of lists precedes every key of the second pair -/
def Sep (A1 : KL w L) (B1 : KL w R) (A2 : KL w L) (B2 : KL w R) : Prop :=
  (∀ x ∈ A1, ∀ y ∈ A2, Spec.keyLt (keyOf x) (keyOf y) = true) ∧
  (∀ x ∈ A1, ∀ y ∈ B2, Spec.keyLt (keyOf x) (keyOf y) = true) ∧
  (∀ x ∈ B1, ∀ y ∈ A2, Spec.keyLt (keyOf x) (keyOf y) = true) ∧
  (∀ x ∈ B1, ∀ y ∈ B2, Spec.keyLt (keyOf x) (keyOf y) = true)

theorem unionS_right_first {A : KL w L} {B1 B2 : KL w R}
    (h : ∀ y ∈ B1, ∀ x ∈ A, Spec.keyLt (keyOf y) (keyOf x) = true) :
    unionS fL fR A (B1 ++ B2) = B1.map (mkRight fR) ++ unionS fL fR A B2 := by
  induction B1 with
  | nil => rfl
  | cons b bs ih =>
    cases A with
    | nil => simp [unionS_nil_left]
    | cons a as =>
      have hlt := h b (List.mem_cons_self ..) a (List.mem_cons_self ..)
      rw [List.cons_append, unionS_cons_cons, if_neg (Spec.keyLt_ne hlt).symm, if_neg (by simp [Spec.keyLt_asymm hlt]),
        ih (fun y hy => h y (List.mem_cons_of_mem _ hy))]
      rfl

theorem unionS_left_first {A1 A2 : KL w L} {B : KL w R}
    (h : ∀ x ∈ A1, ∀ y ∈ B, Spec.keyLt (keyOf x) (keyOf y) = true) :
    unionS fL fR (A1 ++ A2) B = A1.map (mkLeft fL) ++ unionS fL fR A2 B := by
  induction A1 with
  | nil => rfl
  | cons a as ih =>
    cases B with
    | nil => simp [unionS_nil_right]
    | cons b bs =>
      have hlt := h a (List.mem_cons_self ..) b (List.mem_cons_self ..)
      rw [List.cons_append, unionS_cons_cons, if_neg (Spec.keyLt_ne hlt), if_pos hlt,
        ih (fun x hx => h x (List.mem_cons_of_mem _ hx))]
      rfl

theorem unionS_split {A1 : KL w L} {B1 : KL w R} {A2 : KL w L} {B2 : KL w R} (h : Sep A1 B1 A2 B2) :
    unionS fL fR (A1 ++ A2) (B1 ++ B2) = unionS fL fR A1 B1 ++ unionS fL fR A2 B2 := by
  obtain ⟨s1, s2, s3, s4⟩ := h
  fun_induction unionS fL fR A1 B1 with
  | case1 bs => exact unionS_right_first s3
  | case2 a as => exact unionS_left_first s2
  | case3 a as b bs h ih =>
    rw [List.cons_append, List.cons_append, unionS_cons_cons, if_pos h,
      ih (fun x hx => s1 x (List.mem_cons_of_mem _ hx)) (fun x hx => s2 x (List.mem_cons_of_mem _ hx))
        (fun x hx => s3 x (List.mem_cons_of_mem _ hx)) (fun x hx => s4 x (List.mem_cons_of_mem _ hx))]
    rfl
  | case4 a as b bs h1 h2 ih =>
    rw [List.cons_append, List.cons_append, unionS_cons_cons, if_neg h1, if_pos h2, ← List.cons_append,
      ih (fun x hx => s1 x (List.mem_cons_of_mem _ hx)) (fun x hx => s2 x (List.mem_cons_of_mem _ hx)) s3 s4]
    rfl
  | case5 a as b bs h1 h2 ih =>
    rw [List.cons_append, List.cons_append, unionS_cons_cons, if_neg h1, if_neg h2, ← List.cons_append,
      ih s1 s2 (fun x hx => s3 x (List.mem_cons_of_mem _ hx)) (fun x hx => s4 x (List.mem_cons_of_mem _ hx))]
    rfl

variable (fL fR) in
theorem unionS_append : ∀ (n : Nat) (A1 : KL w L) (B1 : KL w R) (A2 : KL w L) (B2 : KL w R),
    A1.length + B1.length ≤ n → Sep A1 B1 A2 B2 →
    unionS fL fR (A1 ++ A2) (B1 ++ B2) = unionS fL fR A1 B1 ++ unionS fL fR A2 B2 :=
  fun _ _ _ _ _ _ h => unionS_split h

theorem unionS_congr {fL fL' : Pfx w → Lpm w R} {fR fR' : Pfx w → Lpm w L} {A : KL w L} {B : KL w R}
    (hA : ∀ a ∈ A, fL a.2.1 = fL' a.2.1) (hB : ∀ b ∈ B, fR b.2.1 = fR' b.2.1) :
    unionS fL fR A B = unionS fL' fR' A B := by
  fun_induction unionS fL fR A B with
  | case1 bs => rw [unionS_nil_left]; exact List.map_congr_left (fun b hb => by simp [mkRight, hB b hb])
  | case2 a as => rw [unionS_nil_right]; exact List.map_congr_left (fun x hx => by simp [mkLeft, hA x hx])
  | case3 a as b bs h ih =>
    rw [unionS_cons_cons, if_pos h, ih (fun x hx => hA x (List.mem_cons_of_mem _ hx)) (fun x hx => hB x (List.mem_cons_of_mem _ hx))]
  | case4 a as b bs h1 h2 ih =>
    rw [unionS_cons_cons, if_neg h1, if_pos h2, ih (fun x hx => hA x (List.mem_cons_of_mem _ hx)) hB]
    simp [mkLeft, hA a (List.mem_cons_self ..)]
  | case5 a as b bs h1 h2 ih =>
    rw [unionS_cons_cons, if_neg h1, if_neg h2, ih hA (fun x hx => hB x (List.mem_cons_of_mem _ hx))]
    simp [mkRight, hB b (List.mem_cons_self ..)]

theorem unionS_left_last {A1 A2 : KL w L} {B : KL w R} (h : Sep A1 B A2 []) :
    unionS fL fR (A1 ++ A2) B = unionS fL fR A1 B ++ A2.map (mkLeft fL) := by
  have := unionS_split (fL := fL) (fR := fR) h
  rwa [List.append_nil, unionS_nil_right] at this

theorem unionS_right_last {A : KL w L} {B1 B2 : KL w R} (h : Sep A B1 [] B2) :
    unionS fL fR A (B1 ++ B2) = unionS fL fR A B1 ++ B2.map (mkRight fR) := by
  have := unionS_split (fL := fL) (fR := fR) h
  rwa [List.append_nil, unionS_nil_left] at this

theorem unionS_left_right {A : KL w L} {B : KL w R}
    (h : ∀ x ∈ A, ∀ y ∈ B, Spec.keyLt (keyOf x) (keyOf y) = true) :
    unionS fL fR A B = A.map (mkLeft fL) ++ B.map (mkRight fR) := by
  have := unionS_left_first (fL := fL) (fR := fR) (A2 := []) h
  rwa [List.append_nil, unionS_nil_left] at this

theorem unionS_right_left {A : KL w L} {B : KL w R}
    (h : ∀ y ∈ B, ∀ x ∈ A, Spec.keyLt (keyOf y) (keyOf x) = true) :
    unionS fL fR A B = B.map (mkRight fR) ++ A.map (mkLeft fL) := by
  have := unionS_right_first (fL := fL) (fR := fR) (B2 := []) h
  rwa [List.append_nil, unionS_nil_right] at this

theorem sep_of {A1 : KL w L} {B1 : KL w R} {A2 : KL w L} {B2 : KL w R} {P1 P2 : List Bool → Prop}
    (h : ∀ x y, P1 x → P2 y → Spec.keyLt x y = true)
    (hA1 : ∀ x ∈ A1, P1 (keyOf x)) (hB1 : ∀ x ∈ B1, P1 (keyOf x))
    (hA2 : ∀ x ∈ A2, P2 (keyOf x)) (hB2 : ∀ x ∈ B2, P2 (keyOf x)) : Sep A1 B1 A2 B2 :=
  ⟨fun x hx y hy => h _ _ (hA1 x hx) (hA2 y hy), fun x hx y hy => h _ _ (hA1 x hx) (hB2 y hy),
   fun x hx y hy => h _ _ (hB1 x hx) (hA2 y hy), fun x hx y hy => h _ _ (hB1 x hx) (hB2 y hy)⟩

theorem under_nil {T : Type} (k : List Bool) : Under k ([] : KL w T) := fun _ hx => nomatch hx

theorem sep_sides {A1 : KL w L} {B1 : KL w R} {A2 : KL w L} {B2 : KL w R} {k : List Bool}
    (hA1 : Under (k ++ [false]) A1) (hB1 : Under (k ++ [false]) B1) (hA2 : Under (k ++ [true]) A2)
    (hB2 : Under (k ++ [true]) B2) : Sep A1 B1 A2 B2 :=
  sep_of (fun _ _ hx hy => Spec.keyLt_of_sides hx hy) hA1 hB1 hA2 hB2

theorem sep_own {A1 : KL w L} {B1 : KL w R} {A2 : KL w L} {B2 : KL w R} {k : List Bool}
    (hA1 : ∀ x ∈ A1, keyOf x = k) (hB1 : ∀ x ∈ B1, keyOf x = k)
    (hA2 : ∀ x ∈ A2, ∃ c, k ++ [c] <+: keyOf x) (hB2 : ∀ x ∈ B2, ∃ c, k ++ [c] <+: keyOf x) : Sep A1 B1 A2 B2 :=
  sep_of (P1 := (· = k)) (P2 := fun y => ∃ c, k ++ [c] <+: y) (fun _ _ hx ⟨_, hc⟩ =>
    hx ▸ Spec.keyLt_of_snoc_prefix hc)
    hA1 hB1 hA2 hB2

theorem exists_side_append {T : Type} {k : List Bool} {A B : KL w T}
    (ha : Under (k ++ [false]) A) (hb : Under (k ++ [true]) B) : ∀ x ∈ A ++ B, ∃ c, k ++ [c] <+: keyOf x :=
  fun x hx => (List.mem_append.1 hx).elim (fun h => ⟨false, ha x h⟩) (fun h => ⟨true, hb x h⟩)

theorem keyLt_own {T U : Type} {s : Nat} {p : Pfx w} {v : Option T} {x : Nat × Pfx w × T} (hx : x ∈ ownS s p v)
    {c : Bool} {y : Nat × Pfx w × U} (hy : p.net ++ [c] <+: keyOf y) : Spec.keyLt (keyOf x) (keyOf y) = true :=
  mem_ownS hx ▸ Spec.keyLt_of_snoc_prefix hy

end SetOps
