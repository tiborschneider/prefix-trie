import PT.Lemmas.Machine
import PT.Lemmas.Pair
/-!
# `intersection` / `intersection_mut`: the index machine yields the keyed intersection

The plain instance of the scheme of `Machine`: no annotation, and at unequal roots only the child on
the other operand's side goes on.
-/
namespace SetOps
variable {w : Nat} {L R : Type}
open Tree Machine

section spec
variable {sl : Nat} {pl : Pfx w} {vl : Option L} {ll lr : Tree w L}
  {sr : Nat} {pr : Pfx w} {vr : Option R} {rl rr : Tree w R}

/-- the item a `Both` entry yields -/
def iItem (pl : Pfx w) (sl : Nat) (vl : Option L) (sr : Nat) (vr : Option R) : Option (IItem w L R) :=
  match vl, vr with
  | some x, some y => some ⟨pl, (sl, x), (sr, y)⟩
  | _, _ => none

theorem interS_below {A : KL w L} (hwr : HasWF (.node sr pr vr rl rr)) {c : Bool} (hA : Under (pr.net ++ [c]) A) :
    interS A (Tree.node sr pr vr rl rr).slotEntries = interS A (child rl rr c).slotEntries :=
  interS_congr (fun a ha => lookupK_side hwr c (hA a ha))

theorem interS_above (hwl : HasWF (.node sl pl vl ll lr)) {B : KL w R} {c : Bool} (hB : Under (pl.net ++ [c]) B) :
    interS (Tree.node sl pl vl ll lr).slotEntries B = interS (child ll lr c).slotEntries B := by
  obtain ⟨_, ull, ulr⟩ := under_root hwl
  have hown : interS (ownS sl pl vl) B = [] :=
    interS_free (fun a ha => coverK_below hB (show a.2.1.net <+: pl.net from mem_ownS ha ▸ List.prefix_refl _))
  rw [slotEntries_node, interS_append, interS_append, hown]
  cases c
  · rw [interS_free (Free.other_side true ulr hB)]; simp
  · rw [interS_free (Free.other_side false ull hB)]; simp

theorem interS_both (hwl : HasWF (.node sl pl vl ll lr)) (hwr : HasWF (.node sr pr vr rl rr)) (hnet : pl.net = pr.net) :
    interS (Tree.node sl pl vl ll lr).slotEntries (Tree.node sr pr vr rl rr).slotEntries =
      (iItem pl sl vl sr vr).toList ++ (interS ll.slotEntries rl.slotEntries ++ interS lr.slotEntries rr.slotEntries) := by
  obtain ⟨_, ull, ulr⟩ := under_root hwl
  obtain ⟨_, url, urr⟩ := under_root hwr
  rw [slotEntries_node sl, interS_append, interS_append, interS_below (A := ll.slotEntries) hwr (c := false) (hnet ▸ ull),
    interS_below (A := lr.slotEntries) hwr (c := true) (hnet ▸ ulr), List.append_assoc]
  congr 1
  cases vl with
  | none => cases vr <;> rfl
  | some x =>
    have hk : keyOf (sl, pl, x) = pr.net := hnet
    simp only [ownS, interS, List.filterMap_cons, List.filterMap_nil, hk]
    rw [slotEntries_node, lookupK_append, lookupK_append, lookupK_of_cover_nil (coverK_below url (List.prefix_refl _)),
      lookupK_of_cover_nil (coverK_below urr (List.prefix_refl _))]
    cases vr <;> simp [ownS, lookupK, keyOf, iItem]

end spec

/-- `iL`, `iR`: the two subtrees of an entry; `iSem`: what it denotes; `iNu`: its weight (their nodes);
`iOk`: the invariant.  Likewise `d*`, `c*`, `u*` for the other machines. -/
def iL : IIdx w L R → Tree w L
  | .both l _ => l
  | .firstA l _ => l
  | .firstB l _ => l

def iR : IIdx w L R → Tree w R
  | .both _ r => r
  | .firstA _ r => r
  | .firstB _ r => r

def iSem (e : IIdx w L R) : List (IItem w L R) := interS (iL e).slotEntries (iR e).slotEntries

def iNu (e : IIdx w L R) : Nat := (iL e).size + (iR e).size

def iOk (e : IIdx w L R) : Prop :=
  HasWF (iL e) ∧ HasWF (iR e) ∧
  match e with
  | .both l r => SameRoot l r
  | .firstA l r => Above l r
  | .firstB l r => Above r l

section next
variable {sa : Nat} {pa : Pfx w} {va : Option L} {la ra : Tree w L}
  {sb : Nat} {pb : Pfx w} {vb : Option R} {lb rb : Tree w R}

theorem iNext_node : iNext (.node sa pa va la ra) (.node sb pb vb lb rb) =
    cmpPfx pa pb [.both (.node sa pa va la ra) (.node sb pb vb lb rb)]
      [.firstA (.node sa pa va la ra) (.node sb pb vb lb rb)] [.firstB (.node sa pa va la ra) (.node sb pb vb lb rb)] [] := rfl

theorem iNext_nil_left (b : Tree w R) : iNext (.nil : Tree w L) b = [] := by cases b <;> rfl

theorem iNext_sides {k : List Bool} (x : Bool) {a : Tree w L} {b : Tree w R} (ha : WF (k ++ [x]) a) (hb : WF (k ++ [!x]) b) :
    iNext a b = [] := by
  cases a with
  | nil => exact iNext_nil_left b
  | node sa pa va la ra =>
    cases b with
    | nil => rfl
    | node sb pb vb lb rb =>
      rw [iNext_node, cmpPfx_sides ha.1 hb.1]
end next

theorem iNext_spec (a : Tree w L) (b : Tree w R) (hwa : HasWF a) (hwb : HasWF b) :
    Pushes iOk iSem iNu (iNext a b) (interS a.slotEntries b.slotEntries) (a.size + b.size) := by
  cases a with
  | nil => rw [iNext_nil_left]; exact Pushes.nil.cast rfl (Nat.zero_le _)
  | node sa pa va la ra =>
    cases b with
    | nil => exact Pushes.nil.cast (interS_free (Free.nil_right _)).symm (Nat.zero_le _)
    | node sb pb vb lb rb =>
      rw [iNext_node]
      exact cmpPfx_cases (motive := fun xs => Pushes iOk iSem iNu xs _ _)
        (fun h => Pushes.single ⟨hwa, hwb, h⟩) (fun h hne => Pushes.single ⟨hwa, hwb, h, hne⟩)
        (fun h hne => Pushes.single ⟨hwa, hwb, h, Ne.symm hne⟩)
        (fun h1 h2 => Pushes.nil.cast
          (interS_free (Free.incomparable (under_root hwa).1 (under_root hwb).1 h1 h2)).symm (Nat.zero_le _))

section first
variable {sl : Nat} {pl : Pfx w} {vl : Option L} {ll lr : Tree w L}
  {sr : Nat} {pr : Pfx w} {vr : Option R} {rl rr : Tree w R} {c : Bool}

theorem iFirstA_firstG (pl : Pfx w) (ll lr : Tree w L) (r : Tree w R) :
    iFirstA pl ll lr r = firstG (fun t => iNext t r) (fun _ => []) [] (toRightOf pl r) ll lr := by
  cases ll <;> cases lr <;> simp [iFirstA, firstG]

theorem iFirstB_firstG (l : Tree w L) (pr : Pfx w) (rl rr : Tree w R) :
    iFirstB l pr rl rr = firstG (fun t => iNext l t) (fun _ => []) [] (toRightOf pr l) rl rr := by
  cases rl <;> cases rr <;> simp [iFirstB, firstG]

theorem iFirstA_eq (hwl : HasWF (.node sl pl vl ll lr)) (hwr : HasWF (.node sr pr vr rl rr)) (hc : pl.net ++ [c] <+: pr.net) :
    iFirstA pl ll lr (.node sr pr vr rl rr) = iNext (child ll lr c) (.node sr pr vr rl rr) := by
  have hr : ∀ x, c = x → WF (pl.net ++ [x]) (Tree.node sr pr vr rl rr) := fun _ h => h ▸ hwr.wf_of_prefix hc
  rw [iFirstA_firstG, show toRightOf pl (Tree.node sr pr vr rl rr) = c from Pfx.toRight_of_prefix hc]
  refine (firstG_eq rfl rfl (fun h => iNext_sides false (hwl.wf_child false) (hr _ h))
    (fun h => iNext_sides true (hwl.wf_child true) (hr _ h))).trans ?_
  cases c <;> simp

theorem iFirstB_eq (hwl : HasWF (.node sl pl vl ll lr)) (hwr : HasWF (.node sr pr vr rl rr)) (hc : pr.net ++ [c] <+: pl.net) :
    iFirstB (.node sl pl vl ll lr) pr rl rr = iNext (.node sl pl vl ll lr) (child rl rr c) := by
  have hl : ∀ x, c = x → WF (pr.net ++ [x]) (Tree.node sl pl vl ll lr) := fun _ h => h ▸ hwl.wf_of_prefix hc
  rw [iFirstB_firstG, show toRightOf pr (Tree.node sl pl vl ll lr) = c from Pfx.toRight_of_prefix hc]
  refine (firstG_eq rfl rfl (fun h => iNext_sides true (hl _ h) (hwr.wf_child false))
    (fun h => iNext_sides false (hl _ h) (hwr.wf_child true))).trans ?_
  cases c <;> simp
end first

theorem iStep_both (sl : Nat) (pl : Pfx w) (vl : Option L) (ll lr : Tree w L)
    (sr : Nat) (pr : Pfx w) (vr : Option R) (rl rr : Tree w R) :
    iStep (.both (.node sl pl vl ll lr) (.node sr pr vr rl rr)) =
      (iItem pl sl vl sr vr, iNext lr rr ++ iNext ll rl) := by
  unfold iStep iItem; cases vl <;> cases vr <;> rfl

theorem iStep_ok (e : IIdx w L R) (h : iOk e) : Unfolds iOk iSem iNu some (iStep e) (iSem e) (iNu e) := by
  obtain ⟨hwl, hwr, hrel⟩ := h
  cases e with
  | both l r =>
    obtain ⟨sl, pl, vl, ll, lr, sr, pr, vr, rl, rr, rfl, rfl, hrel⟩ := hrel.nodes
    rw [iStep_both]
    exact ((iNext_spec lr rr hwl.child.2 hwr.child.2).append (iNext_spec ll rl hwl.child.1 hwr.child.1)).unfolds'
      (interS_both hwl hwr hrel) (size_both_lt ..)
  | firstA l r =>
    obtain ⟨sl, pl, vl, ll, lr, sr, pr, vr, rl, rr, rfl, rfl, hrel⟩ := hrel.nodes
    have hside := Pfx.side_prefix hrel.1 hrel.2
    show Unfolds iOk iSem iNu some (none, iFirstA pl ll lr (.node sr pr vr rl rr)) _ _
    rw [iFirstA_eq hwl hwr hside]
    exact (iNext_spec _ _ ⟨_, hwl.wf_child _⟩ hwr).unfolds' (interS_above hwl ((under_root hwr).1.mono hside))
      (Nat.add_lt_add_right (size_child_lt ..) _)
  | firstB l r =>
    obtain ⟨sr, pr, vr, rl, rr, sl, pl, vl, ll, lr, rfl, rfl, hrel⟩ := hrel.nodes
    have hside := Pfx.side_prefix hrel.1 hrel.2
    show Unfolds iOk iSem iNu some (none, iFirstB (.node sl pl vl ll lr) pr rl rr) _ _
    rw [iFirstB_eq hwl hwr hside]
    exact (iNext_spec _ _ hwl ⟨_, hwr.wf_child _⟩).unfolds' (interS_below hwr ((under_root hwl).1.mono hside))
      (Nat.add_lt_add_left (size_child_lt ..) _)

theorem intersection_eq (a : Tree w L) (b : Tree w R) (hwa : HasWF a) (hwb : HasWF b) :
    intersection a b = interS a.slotEntries b.slotEntries := by
  have := run_unfolds iStep some iStep_ok (iNext_spec a b hwa hwb) (fuel := fuelFor a b) (by unfold fuelFor; omega)
  rwa [List.filterMap_some] at this

end SetOps
