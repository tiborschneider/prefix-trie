import PT.Lemmas.MaskOrder
/-!
# The `Ipv4Net` / `Ipv6Net` overrides agree with the generic definitions

`contains` is overridden by the range comparison of the `ipnet` crate
(`network() <= other.network() && other.broadcast() <= broadcast()`), `longest_common_prefix` by a
copy that XORs the un-masked representations.
-/
namespace Pfx
variable {w : Nat}

theorem getMsbD_ge (x : BitVec w) (i : Nat) (h : w ≤ i) : x.getMsbD i = false :=
  BitVec.getMsbD_of_ge x i h

theorem top_ipnetBroadcast (p : Pfx w) :
    top p.ipnetBroadcast w = p.net ++ List.replicate (w - p.len) true :=
  top_eq_append p.hlen fun i hi => by
    rw [ipnetBroadcast, BitVec.getMsbD_or, BitVec.getMsbD_not, getMsbD_maskFromLen]
    by_cases h : i < p.len <;> simp [h, hi]

/-- the range `[a.net 0…0, a.net 1…1]` contains that of `b` iff `a.net` is a prefix of `b.net`
(`Spec.prefix_iff_pad`) -/
theorem ipnetContains_eq (a b : Pfx w) : a.ipnetContains b = a.contains b := by
  rw [Bool.eq_iff_iff, contains_iff, ipnetContains, Bool.and_eq_true, decide_eq_true_eq,
    decide_eq_true_eq, toNat_le_iff, toNat_le_iff, top_ipnetBroadcast, top_ipnetBroadcast,
    ipnetMask, ipnetMask, ← mask, ← mask, top_mask, top_mask]
  exact (Spec.prefix_iff_pad ((net_length_pad a).trans (net_length_pad b).symm)).symm

theorem ipnetLcpLen_eq (a b : Pfx w) : ipnetLcpLen a b = lcpLen a b :=
  have h (k : Nat) : k ≤ ipnetLcpLen a b ↔ k ≤ lcpLen a b := by
    rw [ipnetLcpLen, le_min_leadingZeros_xor_iff _ _ a.hlen, le_lcpLen_iff]
  Nat.le_antisymm ((h _).1 (Nat.le_refl _)) ((h _).2 (Nat.le_refl _))

theorem ipnetLcp_eq (a b : Pfx w) : a.ipnetLcp b = a.lcp b := by
  have hle := lcpLen_le_left a b
  simp only [ipnetLcp, lcp, mk.injEq, ipnetLcpLen_eq, and_true]
  exact (and_maskFromLen_eq_iff (Nat.le_trans hle a.hlen)).2
    (top_and_maskFromLen_of_le _ hle).symm

end Pfx
