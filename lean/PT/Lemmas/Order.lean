import PT.Lemmas.WF
import PT.Lemmas.KeyOrder
import PT.Iter
/-!
# Order of the entry list and the explicit-stack iterator

Pre-order is key order: the entry list of a well-formed tree is strictly ascending in `Spec.keyLt`
(`entries_sorted`), so it is determined by its members (`entries_eq_of_mem_iff`).  The iterator's stack
stands for the concatenated entry lists of its trees (`denote`), and `iterNext` peels off their head, so
iteration yields `entries`.  The order itself is in `KeyOrder.lean`.
-/
namespace Tree
variable {w : Nat} {V : Type}

theorem entries_sorted {k : List Bool} {t : Tree w V} (h : WF k t) :
    t.entries.Pairwise (fun a b => Spec.keyLt a.1.net b.1.net = true) := by
  induction t generalizing k with
  | nil => simp [entries]
  | node s p v l r ihl ihr =>
    rw [entries_node, List.append_assoc, List.pairwise_append]
    refine ⟨?_, ?_, ?_⟩
    · cases v <;> simp [own]
    · rw [List.pairwise_append]
      refine ⟨ihl h.2.1, ihr h.2.2, ?_⟩
      intro a ha b hb
      exact Spec.keyLt_of_sides (WF.mem_entries h.2.1 ha) (WF.mem_entries h.2.2 hb)
    · intro a ha b hb
      rw [(mem_own.1 ha).2]
      have hb' : ∃ c, p.net ++ [c] <+: b.1.net := by
        rcases List.mem_append.1 hb with hb | hb
        · exact ⟨false, WF.mem_entries h.2.1 hb⟩
        · exact ⟨true, WF.mem_entries h.2.2 hb⟩
      obtain ⟨c, hc⟩ := hb'
      exact Spec.keyLt_of_snoc_prefix hc

theorem entries_keys_pairwise {k : List Bool} {t : Tree w V} (h : WF k t) :
    t.entries.Pairwise (fun a b => a.1.net ≠ b.1.net) :=
  (entries_sorted h).imp Spec.keyLt_ne

theorem entries_keys_nodup {k : List Bool} {t : Tree w V} (h : WF k t) :
    (t.entries.map (fun e => e.1.net)).Nodup := by
  rw [List.Nodup, List.pairwise_map]; exact entries_keys_pairwise h

theorem entries_eq_of_mem_iff {k1 k2 : List Bool} {t1 t2 : Tree w V} (h1 : WF k1 t1) (h2 : WF k2 t2)
    (h : ∀ e, e ∈ t1.entries ↔ e ∈ t2.entries) : t1.entries = t2.entries :=
  Spec.eq_of_sorted (entries_sorted h1) (entries_sorted h2) h

/-- `entries` with the arena slot of each node: the operand of the set operations (C05–C08), whose
`*_mut` variants write through that slot -/
def slotEntries : Tree w V → List (Nat × Pfx w × V)
  | nil => []
  | node s p v l r => (match v with | some x => [(s, p, x)] | none => []) ++ slotEntries l ++ slotEntries r

theorem slotEntries_snd (t : Tree w V) : t.slotEntries.map (·.2) = t.entries := by
  induction t with
  | nil => rfl
  | node s p v l r ihl ihr => cases v <;> simp [slotEntries, entries, ihl, ihr]

theorem mem_entries_iff_slot {t : Tree w V} {e : Pfx w × V} : e ∈ t.entries ↔ ∃ s, (s, e) ∈ t.slotEntries := by
  rw [← slotEntries_snd, List.mem_map]
  exact ⟨fun ⟨x, hx, he⟩ => ⟨x.1, he ▸ hx⟩, fun ⟨s, hs⟩ => ⟨_, hs, rfl⟩⟩

def denoteS (st : List (Tree w V)) : List (Nat × Pfx w × V) := (st.map slotEntries).flatten

def denote (st : List (Tree w V)) : List (Pfx w × V) := (st.map entries).flatten

theorem denoteS_snd (st : List (Tree w V)) : (denoteS st).map (·.2) = denote st := by
  simp [denoteS, denote, List.map_flatten, Function.comp_def, slotEntries_snd]

theorem pushChild_denoteS (st : List (Tree w V)) (c : Tree w V) :
    denoteS (pushChild st c) = c.slotEntries ++ denoteS st := by
  cases c <;> simp [pushChild, denoteS, slotEntries]

theorem iterNext_specS (st : List (Tree w V)) :
    denoteS st = match iterNext st with
      | none => []
      | some (it, st') => it :: denoteS st' := by
  fun_induction iterNext st with
  | case1 => rfl -- empty stack
  | case2 st ih => simpa [denoteS, slotEntries] using ih -- `nil` on top: popped
  | case3 s p x l r st => -- a node with the value `x` on top: yielded, its children pushed
    simp only [pushChild_denoteS]; simp [denoteS, slotEntries]
  | case4 s p l r st ih => -- a node without value on top: its children pushed
    rw [← ih, pushChild_denoteS, pushChild_denoteS]; simp [denoteS, slotEntries]

theorem iterNext_spec (st : List (Tree w V)) :
    denote st = match iterNext st with
      | none => []
      | some (it, st') => it.2 :: denote st' := by
  rw [← denoteS_snd, iterNext_specS]
  cases iterNext st with
  | none => rfl
  | some x => simp [denoteS_snd]

theorem iterAllS_eq (st : List (Tree w V)) : iterAllS st = denoteS st := by
  fun_induction iterAllS st with
  | case1 st h => rw [iterNext_specS, h] -- `h : iterNext st = none`
  | case2 st it st' h ih => rw [iterNext_specS st, h, ih] -- `h : iterNext st = some (it, st')`

theorem iterAll_eq (st : List (Tree w V)) : iterAll st = denote st := by
  rw [iterAll, iterAllS_eq, denoteS_snd]

theorem iterAllS_root (t : Tree w V) : iterAllS [t] = t.slotEntries := by
  simp [iterAllS_eq, denoteS]

theorem iterAll_root (t : Tree w V) : iterAll [t] = t.entries := by
  simp [iterAll_eq, denote]

theorem iterNext_nil : iterNext ([] : List (Tree w V)) = none := by
  unfold iterNext; rfl

theorem iterTake_append (k : Nat) (st : List (Tree w V)) :
    (iterTake k st).1 ++ iterAll (iterTake k st).2 = iterAll st := by
  induction k generalizing st with
  | zero => rfl
  | succ k ih =>
    rw [iterTake, iterAll_eq st, iterNext_spec st]
    cases iterNext st with
    | none => simp [iterAll_eq, denote]
    | some x => simpa [iterAll_eq] using ih x.2

end Tree
