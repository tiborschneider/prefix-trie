import PT.Lemmas.Remove
/-!
# `remove_children` and `children`: the subtree selected by a covering prefix

`childrenStart t q` is the subtree `q` selects, and its entries are those `q` covers; `remove_children`
detaches exactly that subtree, by one induction over how a subtree comes to be detached
(`rmChildren_done_induction`).
-/
namespace Tree
variable {w : Nat} {V : Type}
open Pfx

theorem childrenStart_node (s : Nat) (p : Pfx w) (v : Option V) (l r : Tree w V) (q : Pfx w) :
    childrenStart (node s p v l r) q = (match dirIns p l r q with
      | .reached => node s p v l r
      | .enter b => childrenStart (child l r b) q
      | .newChild b _ => child l r b
      | _ => nil) := by
  rw [childrenStart, dirIns]
  by_cases he : p.eqv q = true
  · rw [if_pos he, if_pos he]
  · rw [if_neg he, if_neg he]
    cases hch : child l r (toRight p q) with
    | nil => rfl
    | node cs cp cv cl cr =>
      simp only [pfx?, dirInsChild]
      cases cp.contains q
      · cases q.contains cp <;> simp only [Bool.false_eq_true, if_false, if_true]
        · exact hch.symm
      · simp only [if_true]; cases toRight p q <;> rfl

section
variable {k : List Bool} {t : Tree w V} {q : Pfx w}

theorem WF.all_covered_by (h : WF k t) (hk : q.net <+: k) : ∀ e ∈ t.entries, q.contains e.1 = true :=
  fun _ he => (contains_iff _ _).2 (hk.trans (h.mem_entries he))

theorem WF.none_covered_by (h : WF k t) (h1 : ¬ k <+: q.net) (h2 : ¬ q.net <+: k) :
    ∀ e ∈ t.entries, q.contains e.1 = false := fun e he =>
  Bool.eq_false_iff.2 fun hc => h.not_covered h1 h2 e he ((contains_iff _ _).1 hc)

theorem WF.covered_side {s : Nat} {p : Pfx w} {v : Option V} {l r : Tree w V} (hwf : WF k (node s p v l r))
    {b : Bool} (hside : p.net ++ [b] <+: q.net) :
    (∀ e ∈ own p v, q.contains e.1 = false) ∧ (∀ e ∈ (child l r (!b)).entries, q.contains e.1 = false) :=
  ⟨fun _ he => Bool.eq_false_iff.2 fun hc => List.not_snoc_prefix p.net b
      (hside.trans ((mem_own.1 he).2 ▸ (contains_iff _ _).1 hc)),
    (hwf.of_child _).none_covered_by (List.other_side hside).1 (List.other_side hside).2⟩

end

theorem covered_node {k : List Bool} {s : Nat} {p : Pfx w} {v : Option V} {l r : Tree w V} {q : Pfx w}
    (hwf : WF k (node s p v l r)) (hp : p.net <+: q.net) :
    (node s p v l r).entries.filter (fun e => q.contains e.1) = (match dirIns p l r q with
      | .reached => (node s p v l r).entries
      | .enter b => (child l r b).entries.filter (fun e => q.contains e.1)
      | .newChild b _ => (child l r b).entries
      | _ => []) := by
  have hcw := fun b => hwf.of_child b
  -- off the node's own key only the child on the side of `q` can hold what `q` covers; the cases say how much
  have key : ∀ {b}, p.net ≠ q.net → toRight p q = b →
      (node s p v l r).entries.filter (fun e => q.contains e.1) =
        (child l r b).entries.filter (fun e => q.contains e.1) := fun hne hb => by
    obtain ⟨hown, hoth⟩ := hwf.covered_side (hb ▸ side_prefix hp hne)
    rw [filter_node_side _ hoth, List.filter_false hown, List.nil_append]
  match dirCase p l r q with
  | .reached (hi := hi) (hpq := hpq) .. =>
    rw [hi]; exact List.filter_eq_self.2 (hwf.self.all_covered_by (hpq ▸ List.prefix_refl _))
  | .enter (hi := hi) (hne := hne) (hb := hb) .. => rw [hi]; exact key hne hb
  | .newLeaf (hi := hi) (hne := hne) (hb := hb) (hch := hch) .. => rw [hi, key hne hb, hch]; rfl
  | .newChild (b := b) (hi := hi) (hne := hne) (hb := hb) (hch := hch) (h2 := h2) .. =>
    -- `hch` turns the child into the node it is, once for its well-formedness and once in the goal
    rw [hi, key hne hb]; exact List.filter_eq_self.2 (hch ▸ (hch ▸ hcw b).self.all_covered_by h2)
  | .newBranch (b := b) (hi := hi) (hne := hne) (hb := hb) (hch := hch) (h1 := h1) (h2 := h2) .. =>
    rw [hi, key hne hb, hch]; exact List.filter_false ((hch ▸ hcw b).self.none_covered_by h1 h2)

theorem childrenStart_entries {k : List Bool} {t : Tree w V} (hwf : WF k t) {q : Pfx w} (hc : RootCovers t q) :
    (childrenStart t q).entries = t.entries.filter (fun e => q.contains e.1) := by
  induction t using child_induction generalizing k with
  | nil => rfl
  | node s p v l r ih =>
    rw [childrenStart_node, covered_node hwf (hc p rfl)]
    cases hi : dirIns p l r q with
    | enter b => exact ih b (hwf.of_child b) (.of_enter (by rw [getDir_eq_of_dirIns, hi]))
    | _ => rfl

theorem childrenStart_mem {k : List Bool} {t : Tree w V} (hwf : WF k t) {q : Pfx w} (hc : RootCovers t q)
    (e : Pfx w × V) :
    e ∈ (childrenStart t q).entries ↔ e ∈ t.entries ∧ q.net <+: e.1.net := by
  rw [childrenStart_entries hwf hc, List.mem_filter, contains_iff]

theorem rmChildren_node (s : Nat) (p : Pfx w) (v : Option V) (l r : Tree w V) (q : Pfx w) :
    rmChildren (node s p v l r) q = (match dirIns p l r q with
      | .reached => .here
      | .enter b => rcAfter s p v l r b (rmChildren (child l r b) q)
      | .newChild b _ => .done (setChild s p v l r b nil) (child l r b)
      | _ => .notFound) := by
  rw [rmChildren]
  cases dirIns p l r q with
  | enter b => cases b <;> rfl
  | _ => rfl

theorem rmChildren_childrenStart (t : Tree w V) (q : Pfx w) :
    childrenStart t q = (match rmChildren t q with
      | .notFound => nil
      | .here => t
      | .done _ rem => rem) := by
  induction t using child_induction with
  | nil => rfl
  | node s p v l r ih =>
    rw [rmChildren_node, childrenStart_node]
    cases dirIns p l r q with
    | enter b =>
      dsimp only
      rw [ih b]
      cases rmChildren (child l r b) q <;> rfl
    | _ => rfl

theorem rmChildren_here {t : Tree w V} {q : Pfx w} (h : rmChildren t q = .here) :
    ∃ s p v l r, t = node s p v l r ∧ p.net = q.net := by
  cases t with
  | nil => cases h
  | node s p v l r =>
    rw [rmChildren_node] at h
    match dirCase p l r q with
    | .reached (hpq := hpq) .. => exact ⟨s, p, v, l, r, rfl, hpq⟩
    | .enter (hi := hi) .. => rw [hi] at h; simp only [rcAfter] at h; split at h <;> cases h
    | .newLeaf (hi := hi) .. | .newChild (hi := hi) .. | .newBranch (hi := hi) .. => rw [hi] at h; cases h

/-- How `remove_children(q)` comes to detach something: at one node on the path towards `q` it takes
off the whole child on the side of `q`, a subtree whose root `q` covers; every node above gets that
child rebuilt. -/
theorem rmChildren_done_induction {q : Pfx w} {motive : Tree w V → Tree w V → Tree w V → Prop}
    (detach : ∀ s p v l r b {cs cp cv cl cr}, p.net ≠ q.net → toRight p q = b →
      child l r b = node cs cp cv cl cr → q.net <+: cp.net →
      motive (node s p v l r) (setChild s p v l r b nil) (child l r b))
    (step : ∀ s p v l r b {cs cp cv cl cr} c rem, p.net ≠ q.net → toRight p q = b →
      child l r b = node cs cp cv cl cr → cp.net <+: q.net →
      motive (child l r b) c rem → motive (node s p v l r) (setChild s p v l r b c) rem)
    {t t' rem : Tree w V} (h : rmChildren t q = .done t' rem) : motive t t' rem := by
  induction t using child_induction generalizing t' rem with
  | nil => cases h
  | node s p v l r ih =>
    rw [rmChildren_node] at h
    match dirCase p l r q with
    | .reached (hi := hi) .. | .newLeaf (hi := hi) .. | .newBranch (hi := hi) .. => rw [hi] at h; cases h
    | .newChild (hi := hi) (hne := hne) (hb := hb) (hch := hch) (h2 := h2) .. =>
      rw [hi] at h; cases h
      exact detach _ _ _ _ _ _ hne hb hch h2
    | .enter (b := b) (hi := hi) (hne := hne) (hb := hb) (hch := hch) (hcq := hcq) .. =>
      rw [hi] at h
      simp only [rcAfter] at h
      split at h
      · next hr =>
        cases h
        obtain ⟨_, _, _, _, _, hch', hpq⟩ := rmChildren_here hr
        exact detach _ _ _ _ _ _ hne hb hch' (hpq ▸ List.prefix_refl _)
      · next hr => cases h; exact step _ _ _ _ _ _ _ _ hne hb hch hcq (ih b hr)
      · cases h

theorem rmChildren_done {k : List Bool} {t : Tree w V} (hwf : WF k t) {q : Pfx w} (hc : RootCovers t q)
    {t' rem : Tree w V} (h : rmChildren t q = .done t' rem) :
    WF k t' ∧ t'.entries = t.entries.filter (fun e => !q.contains e.1) := by
  refine rmChildren_done_induction (motive := fun t t' _ => ∀ k, WF k t → RootCovers t q →
    WF k t' ∧ t'.entries = t.entries.filter (fun e => !q.contains e.1)) ?_ ?_ h k hwf hc
  · intro s p v l r b _ _ _ _ _ hne hb hch hq k hwf hc
    obtain ⟨hown, hoth⟩ := hwf.covered_side (hb ▸ side_prefix (hc p rfl) hne)
    have hall := hch ▸ (hch ▸ hwf.of_child b).self.all_covered_by hq
    exact ⟨hwf.setChild trivial,
      entries_setChild_filter hown hoth (List.filter_false fun e he => by rw [hall e he]; rfl).symm⟩
  · intro s p v l r b _ _ _ _ _ c rem hne hb hch hcq ih k hwf hc
    obtain ⟨hown, hoth⟩ := hwf.covered_side (hb ▸ side_prefix (hc p rfl) hne)
    obtain ⟨hw', he'⟩ := ih _ (hwf.of_child b) (hch ▸ .node hcq)
    exact ⟨hwf.setChild hw', entries_setChild_filter hown hoth he'⟩

theorem rmChildren_congr {q q' : Pfx w} (h : q.net = q'.net) (t : Tree w V) :
    rmChildren t q = rmChildren t q' := by
  induction t using child_induction with
  | nil => rfl
  | node s p v l r ih =>
    rw [rmChildren_node, rmChildren_node, dirIns_congr h]
    cases dirIns p l r q' with
    | enter b => simp only [ih b]
    | _ => rfl

theorem childrenStart_congr {q q' : Pfx w} (h : q.net = q'.net) (t : Tree w V) :
    childrenStart t q = childrenStart t q' := by
  rw [rmChildren_childrenStart, rmChildren_childrenStart, rmChildren_congr h]

end Tree
