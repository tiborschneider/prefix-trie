import PT.Lemmas.KeyOrder
import PT.Lemmas.Bits
/-!
# Comparing masks as integers is comparing network parts lexicographically

`union` orders disjoint subtrees by `p_a.mask() < p_b.mask()`.  Unsigned comparison of bit
vectors is `keyLt` on their bits (`toNat_lt_iff`), and the bits of `mask()` are the network part
followed by zeros; what remains are facts about `keyLt` on keys padded to a common length.
-/
namespace Spec

theorem keyLt_zeros_right (a : Key) (n : Nat) (h : n ≤ a.length) :
    keyLt a (List.replicate n false) = false := by
  induction a generalizing n with
  | nil => cases Nat.le_zero.1 h; rfl
  | cons x xs ih => cases n with
    | zero => rfl
    | succ n =>
      cases x
      · exact ih n (Nat.le_of_succ_le_succ h)
      · rfl

theorem keyLt_ones_left (a : Key) (n : Nat) (h : a.length ≤ n) :
    keyLt (List.replicate n true) a = false := by
  induction a generalizing n with
  | nil => cases n <;> rfl
  | cons x xs ih => cases n with
    | zero => cases h
    | succ n =>
      cases x
      · rfl
      · exact ih n (Nat.le_of_succ_le_succ h)

/-- `a` is a prefix of `b` iff the range `[a00…0, a11…1]` contains the range of `b` -/
theorem prefix_iff_pad {a b : Key} {m n : Nat} (h : a.length + m = b.length + n) :
    a <+: b ↔ keyLt (b ++ List.replicate n false) (a ++ List.replicate m false) = false ∧
      keyLt (a ++ List.replicate m true) (b ++ List.replicate n true) = false := by
  induction a generalizing b n with
  | nil =>
    obtain rfl : m = b.length + n := (Nat.zero_add m).symm.trans h
    exact iff_of_true List.nil_prefix
      ⟨keyLt_zeros_right _ _ (by rw [List.length_append, List.length_replicate]; exact Nat.le_refl _),
       keyLt_ones_left _ _ (by rw [List.length_append, List.length_replicate]; exact Nat.le_refl _)⟩
  | cons x xs ih => cases b with
    | nil =>
      -- the padding of the empty `b` is as long as `a` padded, so it has a head for `keyLt` to compare
      obtain ⟨n, rfl⟩ : ∃ k, n = k + 1 :=
        ⟨xs.length + m, by rw [List.length_cons, List.length_nil] at h; omega⟩
      refine iff_of_false (fun hp => nomatch List.prefix_nil.1 hp) fun ⟨h1, h2⟩ => ?_
      cases x
      · cases h2
      · cases h1
    | cons y ys =>
      rw [List.cons_append, List.cons_append, List.cons_append, List.cons_append, List.cons_prefix_cons,
        keyLt, keyLt]
      by_cases hxy : x = y
      · cases hxy
        have h' : xs.length + m = ys.length + n :=
          Nat.succ.inj (by rw [← Nat.succ_add, ← Nat.succ_add]; exact h)
        simp only [beq_self_eq_true, if_true, true_and, ih h']
      · -- differing heads put `b`'s whole range on one side of `a`'s: one of the two comparisons holds
        rw [if_neg fun e => hxy (beq_iff_eq.1 e).symm, if_neg fun e => hxy (beq_iff_eq.1 e)]
        refine iff_of_false (fun hp => hxy hp.1) ?_
        revert hxy; cases x <;> cases y <;> decide

theorem zeros_keyLt_or_eq (a : Key) :
    keyLt (List.replicate a.length false) a = true ∨ List.replicate a.length false = a := by
  rcases keyLt_trichotomy (List.replicate a.length false) a with h | h | h
  · exact .inl h
  · exact .inr h
  · rw [keyLt_zeros_right a _ (Nat.le_refl _)] at h; cases h

theorem keyLt_iff_pad {a b : Key} {m n : Nat} (h : a.length + m = b.length + n) :
    keyLt a b = true ↔ keyLt (a ++ List.replicate m false) (b ++ List.replicate n false) = true ∨
      (a ++ List.replicate m false = b ++ List.replicate n false ∧ a.length < b.length) := by
  -- along the recursion of `keyLt`: equal heads pass the question to the tails, differing heads decide
  -- both sides alike; when one key is exhausted its padded form is all zeros, which nothing of that
  -- length precedes (`keyLt_zeros_right`), so the exhausted, shorter key comes first or ties
  fun_induction keyLt a b generalizing m n with
  | case1 => -- both exhausted
    obtain rfl : m = n := (Nat.zero_add m).symm.trans (h.trans (Nat.zero_add n))
    simp only [List.nil_append, keyLt_irrefl, Nat.lt_irrefl, and_false, or_false]
  | case2 y ys => -- `a` exhausted first
    have := zeros_keyLt_or_eq ((y :: ys) ++ List.replicate n false)
    rw [List.length_append, List.length_replicate, ← h, List.length_nil, Nat.zero_add] at this
    exact iff_of_true rfl (this.imp id fun e => ⟨e, Nat.succ_pos _⟩)
  | case3 x xs => -- `b` exhausted first
    have := keyLt_zeros_right ((x :: xs) ++ List.replicate m false) n
      (by rw [List.length_append, List.length_replicate, h]; exact Nat.le_add_left ..)
    exact iff_of_false Bool.false_ne_true fun h' =>
      h'.elim (fun h1 => by rw [List.nil_append, this] at h1; cases h1) (fun h2 => Nat.not_lt_zero _ h2.2)
  | case4 x xs y ys hxy ih => -- equal heads
    cases beq_iff_eq.1 hxy
    have h' : xs.length + m = ys.length + n :=
      Nat.succ.inj (by rw [← Nat.succ_add, ← Nat.succ_add]; exact h)
    rw [ih h']
    simp only [List.cons_append, keyLt, beq_self_eq_true, if_true, List.cons.injEq, true_and,
      List.length_cons, Nat.add_lt_add_iff_right]
  | case5 x xs y ys hxy => -- differing heads
    have hne : ¬ x = y := fun e => hxy (beq_iff_eq.2 e)
    simp only [List.cons_append, keyLt, if_neg hxy, List.cons.injEq, hne, false_and, or_false]

end Spec

namespace Pfx
variable {w : Nat}

theorem top_cons (a : Bool) (x : BitVec w) : top (BitVec.cons a x) (w + 1) = a :: top x w := by
  simp only [top, List.range_succ_eq_map, List.map_cons, BitVec.getMsbD_cons_zero, List.map_map,
    Function.comp_def, BitVec.getMsbD_cons_succ]

theorem toNat_lt_iff (x y : BitVec w) : x.toNat < y.toNat ↔ Spec.keyLt (top x w) (top y w) = true := by
  induction w with
  | zero => rw [BitVec.eq_nil x, BitVec.eq_nil y]; exact iff_of_false (Nat.lt_irrefl _) Bool.false_ne_true
  | succ w ih =>
    rw [← BitVec.cons_msb_setWidth x, ← BitVec.cons_msb_setWidth y, top_cons, top_cons,
      BitVec.toNat_cons', BitVec.toNat_cons', Spec.keyLt_cons, ← ih, Nat.shiftLeft_eq, Nat.shiftLeft_eq]
    have hx := (x.setWidth w).isLt
    have hy := (y.setWidth w).isLt
    generalize (x.setWidth w).toNat = p at hx ⊢
    generalize (y.setWidth w).toNat = q at hy ⊢
    generalize 2 ^ w = N at hx hy ⊢
    -- equal head bits leave it to the tails; a differing head bit outweighs any tail (`p, q < N`)
    cases x.msb <;> cases y.msb <;>
      simp only [Bool.toNat_false, Bool.toNat_true, Nat.zero_mul, Nat.one_mul, Nat.zero_add,
        Nat.add_lt_add_iff_left, Bool.lt_irrefl, true_and, false_or, false_and, or_false,
        Bool.false_eq_true, Bool.true_eq_false]
    -- left are the two goals with differing heads
    · exact (iff_of_true (Nat.lt_add_right q hx) (by decide) : p < N + q ↔ false < true)
    · exact (iff_of_false (by omega) (by decide) : N + p < q ↔ true < false)

theorem toNat_le_iff (x y : BitVec w) : x.toNat ≤ y.toNat ↔ Spec.keyLt (top y w) (top x w) = false := by
  rw [← Nat.not_lt, toNat_lt_iff, Bool.not_eq_true]

theorem top_mask (p : Pfx w) : top p.mask w = p.net ++ List.replicate (w - p.len) false :=
  top_and_maskFromLen _ p.hlen

theorem net_length_pad (p : Pfx w) : p.net.length + (w - p.len) = w := by
  rw [net_length, Nat.add_sub_cancel' p.hlen]

theorem maskLt_eq_keyLt {a b : Pfx w} (h1 : ¬ a.net <+: b.net) (h2 : ¬ b.net <+: a.net) :
    Pfx.maskLt a b = Spec.keyLt a.net b.net := by
  rw [maskLt, Bool.eq_iff_iff, decide_eq_true_eq, toNat_lt_iff, top_mask, top_mask,
    Spec.keyLt_eq_of_roots h1 h2 (List.prefix_append ..) (List.prefix_append ..)]

end Pfx
