import PT.Lemmas.Get
import PT.Lemmas.Shape
/-!
# `remove` (`_remove_node` with parent / grand-parent collapse), `remove_keep_tree`, value updates

The entry list after each mutator is a filter or a map of the old one; a collapse of the parent changes
no entry.
-/
namespace Tree
variable {w : Nat} {V : Type}
open Pfx

/-- what `_remove_node` does at the node itself: either the node stays, without its value, or (it has a
parent and at most one child) that child takes its place and its slot is freed -/
theorem removeHere_cases (s : Nat) (p : Pfx w) (v : Option V) (l r : Tree w V) (hp : Bool) :
    removeHere s p v l r hp = ⟨node s p none l r, v, [], false⟩ ∨
    ∃ c, child l r (!c) = nil ∧ removeHere s p v l r hp = ⟨child l r c, v, [s], (child l r c).isNil⟩ := by
  cases l <;> cases r <;> cases hp <;>
    first
      | exact .inl rfl
      | exact .inr ⟨true, rfl, rfl⟩
      | exact .inr ⟨false, rfl, rfl⟩

theorem removeHere_val (s : Nat) (p : Pfx w) (v : Option V) (l r : Tree w V) (hp : Bool) :
    (removeHere s p v l r hp).val = v := by
  rcases removeHere_cases s p v l r hp with h | ⟨c, _, h⟩ <;> rw [h]

theorem removeHere_entries (s : Nat) (p : Pfx w) (v : Option V) (l r : Tree w V) (hp : Bool) :
    (removeHere s p v l r hp).t.entries = l.entries ++ r.entries := by
  rcases removeHere_cases s p v l r hp with h | ⟨c, hc, h⟩ <;> rw [h]
  · exact entries_node s p none l r
  · cases c
    · rw [show r = nil from hc]; exact (List.append_nil _).symm
    · rw [show l = nil from hc]; rfl

theorem removeHere_wf {k : List Bool} {s : Nat} {p : Pfx w} {v : Option V} {l r : Tree w V}
    (hw : WF k (node s p v l r)) (hp : Bool) : WF k (removeHere s p v l r hp).t := by
  rcases removeHere_cases s p v l r hp with h | ⟨c, _, h⟩ <;> rw [h]
  · exact ⟨hw.1, hw.2.1, hw.2.2⟩
  · exact WF.up hw.1 (hw.of_child c)

theorem removeHere_leaf {s : Nat} {p : Pfx w} {v : Option V} {l r : Tree w V} {hp : Bool}
    (h : (removeHere s p v l r hp).leaf = true) : (removeHere s p v l r hp).t = nil := by
  rcases removeHere_cases s p v l r hp with h' | ⟨c, _, h'⟩ <;> rw [h'] at h ⊢
  · cases h
  · cases hc : child l r c with
    | nil => rfl
    | node => rw [hc] at h; cases h

/-- back at the parent: either the child came back as a removed leaf under a value-less parent that has
a parent itself, and the sibling takes the parent's place; or the child is put back -/
theorem afterChild_cases (s : Nat) (p : Pfx w) (v : Option V) (l r : Tree w V) (b hp : Bool) (res : RemRes w V) :
    (res.leaf = true ∧ hp = true ∧ v = none ∧
      afterChild s p v l r b hp res = ⟨child l r (!b), res.val, res.freed ++ [s], false⟩) ∨
    (¬ (res.leaf && hp && v.isNone) = true ∧
      afterChild s p v l r b hp res = ⟨setChild s p v l r b res.t, res.val, res.freed, false⟩) := by
  by_cases h : (res.leaf && hp && v.isNone) = true
  · have h' := h
    simp only [Bool.and_eq_true, Option.isNone_iff_eq_none] at h'
    exact .inl ⟨h'.1.1, h'.1.2, h'.2, by rw [afterChild, if_pos h]⟩
  · exact .inr ⟨h, by rw [afterChild, if_neg h]⟩

theorem afterChild_leaf (s : Nat) (p : Pfx w) (v : Option V) (l r : Tree w V) (b hp : Bool) (res : RemRes w V) :
    (afterChild s p v l r b hp res).leaf = false := by
  rcases afterChild_cases s p v l r b hp res with ⟨_, _, _, h⟩ | ⟨_, h⟩ <;> rw [h]

theorem afterChild_val (s : Nat) (p : Pfx w) (v : Option V) (l r : Tree w V) (b hp : Bool) (res : RemRes w V) :
    (afterChild s p v l r b hp res).val = res.val := by
  rcases afterChild_cases s p v l r b hp res with ⟨_, _, _, h⟩ | ⟨_, h⟩ <;> rw [h]

theorem remove_node (s : Nat) (p : Pfx w) (v : Option V) (l r : Tree w V) (q : Pfx w) (hp : Bool) :
    remove (node s p v l r) q hp = (match getDir p l r q with
      | .reached => removeHere s p v l r hp
      | .enter b => afterChild s p v l r b hp (remove (child l r b) q true)
      | .missing => ⟨node s p v l r, none, [], false⟩) := by
  rw [remove]
  cases getDir p l r q with
  | enter b => cases b <;> rfl
  | _ => rfl

theorem remove_leaf {t : Tree w V} {q : Pfx w} {hp : Bool} (h : (remove t q hp).leaf = true) :
    (remove t q hp).t = nil := by
  cases t with
  | nil => rfl
  | node s p v l r =>
    rw [remove_node] at h ⊢
    cases hg : getDir p l r q <;> rw [hg] at h
    · exact removeHere_leaf h
    · exact absurd h (by simp [afterChild_leaf])
    · cases h

theorem remove_wf {k : List Bool} {t : Tree w V} (hwf : WF k t) (q : Pfx w) (hp : Bool) :
    WF k (remove t q hp).t := by
  induction t using child_induction generalizing k hp with
  | nil => trivial
  | node s p v l r ih =>
    rw [remove_node]
    cases getDir p l r q with
    | reached => exact removeHere_wf hwf hp
    | missing => exact hwf
    | enter b =>
      rcases afterChild_cases s p v l r b hp (remove (child l r b) q true) with ⟨_, _, _, h⟩ | ⟨_, h⟩ <;> simp only [h]
      · exact WF.up hwf.1 (hwf.of_child _)
      · exact hwf.setChild (ih b (hwf.of_child b) true)

theorem remove_entries {k : List Bool} {t : Tree w V} (hwf : WF k t) (q : Pfx w) (hp : Bool) :
    (remove t q hp).t.entries = t.entries.filter (fun e => !e.1.eqv q) := by
  induction t using child_induction generalizing k hp with
  | nil => rfl
  | node s p v l r ih =>
    rw [remove_node]
    cases hg : getDir p l r q with
    | reached =>
      exact (removeHere_entries ..).trans
        (filter_not_node_own (hwf.eqv_reached hg) (own_eqv (getDir_reached hg))).symm
    | missing => exact (List.filter_not_false (hwf.eqv_missing hg)).symm
    | enter b =>
      obtain ⟨hown, hoth⟩ := hwf.eqv_enter hg
      have ih := ih b (hwf.of_child b) true
      rw [← entries_setChild_filter hown hoth ih]
      rcases afterChild_cases s p v l r b hp (remove (child l r b) q true) with ⟨hleaf, _, hv, h⟩ | ⟨_, h⟩ <;> simp only [h]
      · -- the child came back as a removed leaf and the value-less parent is collapsed into the sibling
        rw [remove_leaf hleaf, hv]
        cases b <;> simp [entries]

theorem remove_mem {k : List Bool} {t : Tree w V} (hwf : WF k t) (q : Pfx w) (hp : Bool) (e : Pfx w × V) :
    e ∈ (remove t q hp).t.entries ↔ e ∈ t.entries ∧ e.1.net ≠ q.net := by
  rw [remove_entries hwf, filter_key_iff]

theorem remove_val (t : Tree w V) (q : Pfx w) (hp : Bool) : (remove t q hp).val = get t q := by
  induction t using child_induction generalizing hp with
  | nil => rfl
  | node s p v l r ih =>
    rw [get, findNode_node, remove_node]
    cases getDir p l r q with
    | reached => exact removeHere_val ..
    | missing => rfl
    | enter b => exact (afterChild_val ..).trans (ih b true)

theorem remove_congr {q q' : Pfx w} (h : q.net = q'.net) (t : Tree w V) (hp : Bool) :
    remove t q hp = remove t q' hp := by
  induction t using child_induction generalizing hp with
  | nil => rfl
  | node s p v l r ih =>
    rw [remove_node, remove_node, getDir_congr h]
    cases getDir p l r q' with
    | enter b => simp only [ih b]
    | _ => rfl

theorem takeValue_node (s : Nat) (p : Pfx w) (v : Option V) (l r : Tree w V) (q : Pfx w) :
    takeValue (node s p v l r) q = (match getDir p l r q with
      | .reached => node s p none l r
      | .enter b => setChild s p v l r b (takeValue (child l r b) q)
      | .missing => node s p v l r) := by
  rw [takeValue]
  cases getDir p l r q with
  | enter b => cases b <;> rfl
  | _ => rfl

section
variable {k : List Bool} {t : Tree w V} (hwf : WF k t) (q : Pfx w)
include hwf

theorem takeValue_wf : WF k (takeValue t q) :=
  hwf.of_skel (skel_takeValue t q)

theorem takeValue_entries :
    (takeValue t q).entries = t.entries.filter (fun e => !e.1.eqv q) := by
  induction t using child_induction generalizing k with
  | nil => rfl
  | node s p v l r ih =>
    rw [takeValue_node]
    cases hg : getDir p l r q with
    | reached => exact (filter_not_node_own (hwf.eqv_reached hg) (own_eqv (getDir_reached hg))).symm
    | missing => exact (List.filter_not_false (hwf.eqv_missing hg)).symm
    | enter b =>
      obtain ⟨hown, hoth⟩ := hwf.eqv_enter hg
      exact entries_setChild_filter hown hoth (ih b (hwf.of_child b))

theorem takeValue_mem (e : Pfx w × V) :
    e ∈ (takeValue t q).entries ↔ e ∈ t.entries ∧ e.1.net ≠ q.net := by
  rw [takeValue_entries hwf, filter_key_iff]

end

theorem modifyValue_node (s : Nat) (p : Pfx w) (v : Option V) (l r : Tree w V) (q : Pfx w) (f : V → V) :
    modifyValue (node s p v l r) q f = (match getDir p l r q with
      | .reached => node s p (v.map f) l r
      | .enter b => setChild s p v l r b (modifyValue (child l r b) q f)
      | .missing => node s p v l r) := by
  rw [modifyValue]
  cases getDir p l r q with
  | enter b => cases b <;> rfl
  | _ => rfl

theorem modifyValue_wf {k : List Bool} {t : Tree w V} (hwf : WF k t) (q : Pfx w) (f : V → V) :
    WF k (modifyValue t q f) :=
  hwf.of_skel (skel_modifyValue t q f)

/-- the specification's `modify`, with the model's key comparison -/
def modEntry (q : Pfx w) (f : V → V) (e : Pfx w × V) : Pfx w × V := if e.1.eqv q then (e.1, f e.2) else e

theorem modEntry_fst (q : Pfx w) (f : V → V) (e : Pfx w × V) : (modEntry q f e).1 = e.1 := by
  unfold modEntry; split <;> rfl

theorem map_modEntry {q : Pfx w} {f : V → V} {es : List (Pfx w × V)} (h : ∀ e ∈ es, e.1.eqv q = false) :
    es.map (modEntry q f) = es := by
  conv => rhs; rw [← List.map_id es]
  exact List.map_congr_left fun e he => by simp [modEntry, h e he]

theorem modifyValue_entries {k : List Bool} {t : Tree w V} (hwf : WF k t) (q : Pfx w) (f : V → V) :
    (modifyValue t q f).entries = t.entries.map (modEntry q f) := by
  induction t using child_induction generalizing k with
  | nil => rfl
  | node s p v l r ih =>
    rw [modifyValue_node]
    cases hg : getDir p l r q with
    | reached =>
      rw [entries_node, entries_node, List.map_append, List.map_append,
        map_modEntry (es := l.entries) (hwf.eqv_reached hg false),
        map_modEntry (es := r.entries) (hwf.eqv_reached hg true)]
      cases v <;> simp [own, modEntry, (eqv_iff p q).2 (getDir_reached hg)]
    | missing => exact (map_modEntry (hwf.eqv_missing hg)).symm
    | enter b =>
      obtain ⟨hown, hoth⟩ := hwf.eqv_enter hg
      exact entries_setChild_map (map_modEntry hown) (map_modEntry hoth) (ih b (hwf.of_child b))

theorem modifyValue_keys {k : List Bool} {t : Tree w V} (hwf : WF k t) (q : Pfx w) (f : V → V) :
    (modifyValue t q f).entries.map (·.1) = t.entries.map (·.1) := by
  rw [modifyValue_entries hwf, List.map_map]
  exact List.map_congr_left fun e _ => modEntry_fst q f e

theorem modifyValue_mem {k : List Bool} {t : Tree w V} (hwf : WF k t) (q : Pfx w) (f : V → V) (e : Pfx w × V) :
    e ∈ (modifyValue t q f).entries ↔
      (e ∈ t.entries ∧ e.1.net ≠ q.net) ∨ (∃ x, (e.1, x) ∈ t.entries ∧ e.1.net = q.net ∧ e.2 = f x) := by
  rw [modifyValue_entries hwf, List.mem_map]
  constructor
  · rintro ⟨e0, h0, rfl⟩
    unfold modEntry
    split
    · next hk => exact .inr ⟨e0.2, h0, (eqv_iff _ _).1 hk, rfl⟩
    · next hk => exact .inl ⟨h0, fun h => hk ((eqv_iff _ _).2 h)⟩
  · rintro (⟨h1, h2⟩ | ⟨x, h1, h2, h3⟩)
    · exact ⟨e, h1, if_neg fun h => h2 ((eqv_iff _ _).1 h)⟩
    · exact ⟨(e.1, x), h1, by rw [modEntry, if_pos ((eqv_iff _ _).2 h2), ← h3]⟩

end Tree
