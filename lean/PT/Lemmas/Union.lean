import PT.Lemmas.Machine
import PT.Lemmas.UnionSpec
import PT.Lemmas.Pair
import PT.Lemmas.MaskOrder
/-!
# `union` / `union_mut`: the index machine yields the sorted merge, with true LPM annotations

Each side carries the other side's longest match, with the invariant of `Diff` on both.  The merge is not
a filter of one list, so its equations at a pair of nodes are splits at key boundaries (`Sep`,
`unionS_split`, `unionS_left_first`, in UnionSpec): own entries before children, left subtrees before right ones;
the annotation functions are exchanged by `unionS_congr`.
-/
namespace SetOps
variable {w : Nat} {L R : Type}
open Tree Machine

theorem annOf_of_cover_nil {T : Type} {B : KL w T} (ann : Lpm w T) {p : Pfx w} (h : coverK B p = []) :
    annOf B ann p = ann := by
  unfold annOf; rw [lpmK_of_cover_nil h]; rfl

theorem view_uItem (p : Pfx w) (l : Option (Nat × L)) (r : Option (Nat × R)) (aL : Lpm w L) (aR : Lpm w R) :
    (uItem p l r aL aR).bind UItem.view =
      (match l, r with
       | some x, none => some (.left p x aR)
       | none, some y => some (.right p aL y)
       | some x, some y => some (.both p x y)
       | none, none => none) := by
  cases l <;> cases r <;> rfl

theorem slotVal_node {T : Type} (s : Nat) (p : Pfx w) (v : Option T) (l r : Tree w T) :
    slotVal (Tree.node s p v l r) = v.map (fun x => (s, x)) := by cases v <;> rfl

section spec
variable {sl : Nat} {pl : Pfx w} {vl : Option L} {ll lr : Tree w L}
  {sr : Nat} {pr : Pfx w} {vr : Option R} {rl rr : Tree w R} {aL : Lpm w L} {aR : Lpm w R} {c : Bool}

theorem own_left {B : KL w R} (h : coverK B pl = []) :
    (ownS sl pl vl).map (mkLeft (annOf B aR)) =
      ((uItem pl (slotVal (.node sl pl vl ll lr)) none aL aR).bind UItem.view).toList := by
  rw [view_uItem, slotVal_node]
  cases vl <;> simp [ownS, mkLeft, annOf_of_cover_nil aR h]

theorem own_right {A : KL w L} (h : coverK A pr = []) :
    (ownS sr pr vr).map (mkRight (annOf A aL)) =
      ((uItem pr none (slotVal (.node sr pr vr rl rr)) aL aR).bind UItem.view).toList := by
  rw [view_uItem, slotVal_node]
  cases vr <;> simp [ownS, mkRight, annOf_of_cover_nil aL h]

theorem unionS_node_node {fL : Pfx w → Lpm w R} {fR : Pfx w → Lpm w L}
    (hwl : HasWF (.node sl pl vl ll lr)) (hwr : HasWF (.node sr pr vr rl rr)) (hnet : pl.net = pr.net) :
    unionS fL fR (Tree.node sl pl vl ll lr).slotEntries (Tree.node sr pr vr rl rr).slotEntries =
      unionS fL fR (ownS sl pl vl) (ownS sr pr vr) ++
        (unionS fL fR ll.slotEntries rl.slotEntries ++ unionS fL fR lr.slotEntries rr.slotEntries) := by
  obtain ⟨_, ull, ulr⟩ := under_root hwl
  obtain ⟨_, url, urr⟩ := under_root hwr
  have url' : Under (pl.net ++ [false]) rl.slotEntries := hnet ▸ url
  have urr' : Under (pl.net ++ [true]) rr.slotEntries := hnet ▸ urr
  rw [slotEntries_node sl, slotEntries_node sr, List.append_assoc, List.append_assoc,
    unionS_split (sep_own (fun _ => mem_ownS) (fun _ h => hnet ▸ mem_ownS h) (exists_side_append ull ulr)
      (exists_side_append url' urr')),
    unionS_split (sep_sides ull url' ulr urr')]

theorem unionS_both (hwl : HasWF (.node sl pl vl ll lr)) (hwr : HasWF (.node sr pr vr rl rr)) (hnet : pl.net = pr.net)
    (hfl : orLpm (Tree.node sl pl vl ll lr) aL = aL) (hfr : orLpm (Tree.node sr pr vr rl rr) aR = aR) :
    unionS (annOf (Tree.node sr pr vr rl rr).slotEntries aR) (annOf (Tree.node sl pl vl ll lr).slotEntries aL)
        (Tree.node sl pl vl ll lr).slotEntries (Tree.node sr pr vr rl rr).slotEntries =
      ((uItem (if vl.isSome then pl else pr) (slotVal (.node sl pl vl ll lr)) (slotVal (.node sr pr vr rl rr)) aL aR).bind
        UItem.view).toList ++
      (unionS (annOf rl.slotEntries aR) (annOf ll.slotEntries aL) ll.slotEntries rl.slotEntries ++
       unionS (annOf rr.slotEntries aR) (annOf lr.slotEntries aL) lr.slotEntries rr.slotEntries) := by
  obtain ⟨_, ull, ulr⟩ := hnet ▸ under_root hwl
  obtain ⟨_, url, urr⟩ := hnet.symm ▸ under_root hwr
  rw [unionS_node_node hwl hwr hnet]
  refine congr (congrArg _ ?_) (congr (congrArg _
    (unionS_congr (fun x hx => lpm_side_fold hwr false (ull x hx) hfr) (fun y hy => lpm_side_fold hwl false (url y hy) hfl)))
    (unionS_congr (fun x hx => lpm_side_fold hwr true (ulr x hx) hfr) (fun y hy => lpm_side_fold hwl true (urr y hy) hfl)))
  rw [view_uItem, slotVal_node, slotVal_node]
  cases vl with
  | none =>
    cases vr with
    | none => exact unionS_nil_left _ _ _
    | some y =>
      exact (unionS_nil_left _ _ _).trans (congrArg (fun a => [UV.right pr a (sr, y)])
        (annOf_of_cover_nil aL (coverK_children (p := pr) hwl (hnet ▸ List.prefix_refl _))))
  | some x =>
    cases vr with
    | none =>
      exact (unionS_nil_right _ _ _).trans (congrArg (fun a => [UV.left pl (sl, x) a])
        (annOf_of_cover_nil aR (coverK_children (p := pl) hwr (hnet ▸ List.prefix_refl _))))
    | some y =>
      show unionS _ _ [(sl, pl, x)] [(sr, pr, y)] = _
      rw [unionS_cons_cons, if_pos (show keyOf (sl, pl, x) = keyOf (sr, pr, y) from hnet), unionS_nil_left]; rfl

theorem unionS_above {B : KL w R} (hB : Under (pl.net ++ [c]) B) {fR : Pfx w → Lpm w L} :
    unionS (annOf B aR) fR (Tree.node sl pl vl ll lr).slotEntries B =
      ((uItem pl (slotVal (.node sl pl vl ll lr)) none aL aR).bind UItem.view).toList ++
        unionS (annOf B aR) fR (ll.slotEntries ++ lr.slotEntries) B := by
  rw [slotEntries_node, List.append_assoc, unionS_left_first (fun _ hx y hy => keyLt_own hx (hB y hy)),
    own_left (coverK_below hB (List.prefix_refl _))]

theorem unionS_below {A : KL w L} (hA : Under (pr.net ++ [c]) A) {fL : Pfx w → Lpm w R} :
    unionS fL (annOf A aL) A (Tree.node sr pr vr rl rr).slotEntries =
      ((uItem pr none (slotVal (.node sr pr vr rl rr)) aL aR).bind UItem.view).toList ++
        unionS fL (annOf A aL) A (rl.slotEntries ++ rr.slotEntries) := by
  rw [slotEntries_node, List.append_assoc, unionS_right_first (fun _ hy x hx => keyLt_own hy (hA x hx)),
    own_right (coverK_below hA (List.prefix_refl _))]

end spec

section next
variable {sa : Nat} {pa : Pfx w} {va : Option L} {la ra : Tree w L}
  {sb : Nat} {pb : Pfx w} {vb : Option R} {lb rb : Tree w R}

theorem uNext_node : uNext (.node sa pa va la ra) (.node sb pb vb lb rb) =
    cmpPfx pa pb [.both (.node sa pa va la ra) (.node sb pb vb lb rb)]
      [.firstL (.node sa pa va la ra) (.node sb pb vb lb rb)] [.firstR (.node sa pa va la ra) (.node sb pb vb lb rb)]
      (if Pfx.maskLt pa pb then [.onlyR (.node sb pb vb lb rb), .onlyL (.node sa pa va la ra)]
       else [.onlyL (.node sa pa va la ra), .onlyR (.node sb pb vb lb rb)]) := by
  unfold uNext cmpPfx
  by_cases hm : Pfx.maskEq pa pb = true
  · have : Pfx.maskLt pa pb = false := by
      unfold Pfx.maskEq at hm; unfold Pfx.maskLt; rw [beq_iff_eq.1 hm]; simp
    simp [hm, this]
  · simp [hm]

theorem uNext_nil_left (b : Tree w R) : uNext (.nil : Tree w L) b = only .onlyR b := by cases b <;> rfl

theorem uNext_sides {k : List Bool} (c : Bool) {a : Tree w L} {b : Tree w R} (ha : WF (k ++ [c]) a)
    (hb : WF (k ++ [!c]) b) :
    uNext a b = if c then only .onlyL a ++ only .onlyR b else only .onlyR b ++ only .onlyL a := by
  cases a with
  | nil => rw [uNext_nil_left]; cases c <;> simp [only]
  | node sa pa va la ra =>
    cases b with
    | nil => cases c <;> rfl
    | node sb pb vb lb rb =>
      obtain ⟨h1, h2⟩ := List.incomparable_of_sides ha.1 hb.1
      rw [uNext_node, cmpPfx_disj h1 h2, Pfx.maskLt_eq_keyLt h1 h2]
      cases c
      · rw [Spec.keyLt_of_sides ha.1 hb.1]; rfl
      · rw [Spec.keyLt_asymm (Spec.keyLt_of_sides hb.1 ha.1)]; rfl

variable {sl : Nat} {pl : Pfx w} {vl : Option L} {ll lr : Tree w L}
  {sr : Nat} {pr : Pfx w} {vr : Option R} {rl rr : Tree w R} {c : Bool}

theorem uFirstL_firstG (pl : Pfx w) (ll lr : Tree w L) (r : Tree w R) :
    uFirstL pl ll lr r = firstG (fun t => uNext t r) (only .onlyL) [.onlyR r] (toRightOf pl r) ll lr := by
  cases ll <;> cases lr <;> rfl

theorem uFirstR_firstG (l : Tree w L) (pr : Pfx w) (rl rr : Tree w R) :
    uFirstR l pr rl rr = firstG (fun t => uNext l t) (only .onlyR) [.onlyL l] (toRightOf pr l) rl rr := by
  cases rl <;> cases rr <;> rfl

theorem uFirstL_eq (hwl : HasWF (.node sl pl vl ll lr)) (hwr : HasWF (.node sr pr vr rl rr)) (hc : pl.net ++ [c] <+: pr.net) :
    uFirstL pl ll lr (.node sr pr vr rl rr) =
      if c then uNext lr (.node sr pr vr rl rr) ++ only .onlyL ll else only .onlyL lr ++ uNext ll (.node sr pr vr rl rr) := by
  have hr : ∀ x, c = x → WF (pl.net ++ [x]) (Tree.node sr pr vr rl rr) := fun _ h => h ▸ hwr.wf_of_prefix hc
  rw [uFirstL_firstG, show toRightOf pl (Tree.node sr pr vr rl rr) = c from Pfx.toRight_of_prefix hc]
  exact firstG_eq rfl rfl (fun h => uNext_sides false (hwl.wf_child false) (hr _ h))
    (fun h => uNext_sides true (hwl.wf_child true) (hr _ h))

theorem uFirstR_eq (hwl : HasWF (.node sl pl vl ll lr)) (hwr : HasWF (.node sr pr vr rl rr)) (hc : pr.net ++ [c] <+: pl.net) :
    uFirstR (.node sl pl vl ll lr) pr rl rr =
      if c then uNext (.node sl pl vl ll lr) rr ++ only .onlyR rl else only .onlyR rr ++ uNext (.node sl pl vl ll lr) rl := by
  have hl : ∀ x, c = x → WF (pr.net ++ [x]) (Tree.node sl pl vl ll lr) := fun _ h => h ▸ hwl.wf_of_prefix hc
  rw [uFirstR_firstG, show toRightOf pr (Tree.node sl pl vl ll lr) = c from Pfx.toRight_of_prefix hc]
  exact firstG_eq rfl rfl (fun h => uNext_sides true (hl _ h) (hwr.wf_child false))
    (fun h => uNext_sides false (hl _ h) (hwr.wf_child true))
end next

/-- `uL`, `uR`, `uSem`, `uNu`, `uOk`: as `iL` … `iOk` in Inter.lean -/
def uL : UIdx w L R → Tree w L
  | .both l _ => l
  | .firstL l _ => l
  | .firstR l _ => l
  | .onlyL l => l
  | .onlyR _ => .nil

def uR : UIdx w L R → Tree w R
  | .both _ r => r
  | .firstL _ r => r
  | .firstR _ r => r
  | .onlyL _ => .nil
  | .onlyR r => r

def uSem (e : UEntry w L R) : List (UV w L R) :=
  unionS (annOf (uR e.1).slotEntries e.2.2) (annOf (uL e.1).slotEntries e.2.1)
    (uL e.1).slotEntries (uR e.1).slotEntries

def uNu (e : UEntry w L R) : Nat := (uL e.1).size + (uR e.1).size

/-- invariant of stack entries: where the machine has entered a node, its value is already folded into
that side's annotation -/
def uOk (e : UEntry w L R) : Prop :=
  HasWF (uL e.1) ∧ HasWF (uR e.1) ∧
  match e.1 with
  | .both l r => SameRoot l r ∧ orLpm l e.2.1 = e.2.1 ∧ orLpm r e.2.2 = e.2.2
  | .firstL l r => Above l r ∧ orLpm l e.2.1 = e.2.1
  | .firstR l r => Above r l ∧ orLpm r e.2.2 = e.2.2
  | .onlyL l => l ≠ .nil
  | .onlyR r => r ≠ .nil

theorem uExtend_append (aL : Lpm w L) (aR : Lpm w R) (xs ys : List (UIdx w L R)) :
    uExtend aL aR (xs ++ ys) = uExtend aL aR xs ++ uExtend aL aR ys := by simp [uExtend]

theorem uSem_onlyL (l : Tree w L) (aL : Lpm w L) (aR : Lpm w R) :
    uSem ((.onlyL l : UIdx w L R), aL, aR) = l.slotEntries.map (mkLeft (fun _ => aR)) :=
  unionS_nil_right _ _ _

theorem uSem_onlyR (r : Tree w R) (aL : Lpm w L) (aR : Lpm w R) :
    uSem ((.onlyR r : UIdx w L R), aL, aR) = r.slotEntries.map (mkRight (fun _ => aL)) :=
  unionS_nil_left _ _ _

/- `uExtend` pushes an `.onlyL t` entry with the own-side annotation `orLpm t aL`; `uSem` of such an entry
does not look at it (`uSem_onlyL`), only at the other side's `aR`.  Likewise `.onlyR`. -/
theorem uOnlyL_spec {t : Tree w L} (B : KL w R) (aL : Lpm w L) (aR : Lpm w R) (hw : HasWF t)
    (h : Free t.slotEntries B) :
    Pushes uOk uSem uNu (uExtend aL aR (only .onlyL t)) (t.slotEntries.map (mkLeft (annOf B aR))) t.size := by
  cases t with
  | nil => exact Pushes.nil
  | node s p v a b =>
    exact (Pushes.single ⟨hw, hasWF_nil, nofun⟩).cast
      ((uSem_onlyL _ _ _).trans (List.map_congr_left fun a ha => by simp [mkLeft, annOf_of_cover_nil aR (h a ha)]).symm) (Nat.le_refl _)

theorem uOnlyR_spec {t : Tree w R} (A : KL w L) (aL : Lpm w L) (aR : Lpm w R) (hw : HasWF t)
    (h : Free t.slotEntries A) :
    Pushes uOk uSem uNu (uExtend aL aR (only .onlyR t)) (t.slotEntries.map (mkRight (annOf A aL))) t.size := by
  cases t with
  | nil => exact Pushes.nil
  | node s p v a b =>
    exact (Pushes.single ⟨hasWF_nil, hw, nofun⟩).cast
      ((uSem_onlyR _ _ _).trans (List.map_congr_left fun b hb => by simp [mkRight, annOf_of_cover_nil aL (h b hb)]).symm) (Nat.le_of_eq (Nat.zero_add _))

theorem uNext_spec (a : Tree w L) (b : Tree w R) (aL : Lpm w L) (aR : Lpm w R) (hwa : HasWF a) (hwb : HasWF b) :
    Pushes uOk uSem uNu (uExtend aL aR (uNext a b))
      (unionS (annOf b.slotEntries aR) (annOf a.slotEntries aL) a.slotEntries b.slotEntries) (a.size + b.size) := by
  cases a with
  | nil =>
    rw [uNext_nil_left]
    exact (uOnlyR_spec [] aL aR hwb (Free.nil_right _)).cast (unionS_nil_left _ _ _).symm (Nat.le_add_left _ _)
  | node sa pa va la ra =>
    cases b with
    | nil => exact (uOnlyL_spec [] aL aR hwa (Free.nil_right _)).cast (unionS_nil_right _ _ _).symm (Nat.le_add_right _ _)
    | node sb pb vb lb rb =>
      have ua := (under_root hwa).1
      have ub := (under_root hwb).1
      rw [uNext_node]
      refine cmpPfx_cases (motive := fun xs => Pushes uOk uSem uNu (uExtend aL aR xs) _ _)
        (fun h => ?_) (fun h hne => ?_) (fun h hne => ?_) (fun h1 h2 => ?_)
      · exact (Pushes.single ⟨hwa, hwb, h, orLpm_idem _ _, orLpm_idem _ _⟩).cast
          (unionS_congr (fun x hx => ann_fold_absorb aR (h ▸ ua x hx)) (fun y hy => ann_fold_absorb aL (h ▸ ub y hy)))
          (Nat.le_refl _)
      · exact (Pushes.single ⟨hwa, hwb, ⟨h, hne⟩, orLpm_idem _ _⟩).cast
          (unionS_congr (fun _ _ => rfl) (fun y hy => ann_fold_absorb aL (h.trans (ub y hy)))) (Nat.le_refl _)
      · exact (Pushes.single ⟨hwa, hwb, ⟨h, Ne.symm hne⟩, orLpm_idem _ _⟩).cast
          (unionS_congr (fun x hx => ann_fold_absorb aR (h.trans (ua x hx))) (fun _ _ => rfl)) (Nat.le_refl _)
      · -- incomparable roots: both walked on their own, the smaller one first
        have PL := uOnlyL_spec (t := .node sa pa va la ra) (Tree.node sb pb vb lb rb).slotEntries aL aR hwa
          (Free.incomparable ua ub h1 h2)
        have PR := uOnlyR_spec (t := .node sb pb vb lb rb) (Tree.node sa pa va la ra).slotEntries aL aR hwb
          (Free.incomparable ub ua h2 h1)
        rw [Pfx.maskLt_eq_keyLt h1 h2]
        cases hk : Spec.keyLt pa.net pb.net
        · have hk' := Spec.keyLt_total (fun e : pa.net = pb.net => h1 (e ▸ List.prefix_refl _)) hk
          exact (PL.append PR).cast
            (unionS_right_left (fun y hy x hx => (Spec.keyLt_eq_of_roots h2 h1 (ub y hy) (ua x hx)).trans hk')).symm
            (Nat.le_refl _)
        · exact (PR.append PL).cast
            (unionS_left_right (fun x hx y hy => (Spec.keyLt_eq_of_roots h1 h2 (ua x hx) (ub y hy)).trans hk)).symm
            (Nat.le_of_eq (Nat.add_comm _ _))

section first
variable {sl : Nat} {pl : Pfx w} {vl : Option L} {ll lr : Tree w L}
  {sr : Nat} {pr : Pfx w} {vr : Option R} {rl rr : Tree w R} {c : Bool}

theorem uFirstL_spec (aL : Lpm w L) (aR : Lpm w R)
    (hwl : HasWF (Tree.node sl pl vl ll lr)) (hwr : HasWF (Tree.node sr pr vr rl rr))
    (hc : pl.net ++ [c] <+: pr.net) (hfl : orLpm (Tree.node sl pl vl ll lr) aL = aL) :
    Pushes uOk uSem uNu (uExtend aL aR (uFirstL pl ll lr (.node sr pr vr rl rr)))
      (unionS (annOf (Tree.node sr pr vr rl rr).slotEntries aR) (annOf (Tree.node sl pl vl ll lr).slotEntries aL)
        (ll.slotEntries ++ lr.slotEntries) (Tree.node sr pr vr rl rr).slotEntries)
      (ll.size + lr.size + (Tree.node sr pr vr rl rr).size) := by
  obtain ⟨_, ull, ulr⟩ := under_root hwl
  have ur := (under_root hwr).1.mono hc
  have hann := fun b hb => (lpm_side_fold hwl c (ur b hb) hfl).symm
  rw [uFirstL_eq hwl hwr hc]
  cases c
  · rw [if_neg (by simp), uExtend_append, unionS_left_last (sep_sides ull ur ulr (under_nil _))]
    exact ((uOnlyL_spec _ aL aR hwl.child.2 (Free.other_side true ulr ur)).append
      (uNext_spec ll _ aL aR hwl.child.1 hwr)).cast
      (congrArg (· ++ _) (unionS_congr (fun _ _ => rfl) hann)) (by omega)
  · rw [if_pos rfl, uExtend_append, unionS_left_first (fun x hx y hy => Spec.keyLt_of_sides (ull x hx) (ur y hy))]
    exact ((uNext_spec lr _ aL aR hwl.child.2 hwr).append
      (uOnlyL_spec _ aL aR hwl.child.1 (Free.other_side false ull ur))).cast
      (congrArg (_ ++ ·) (unionS_congr (fun _ _ => rfl) hann)) (by omega)

theorem uFirstR_spec (aL : Lpm w L) (aR : Lpm w R)
    (hwl : HasWF (Tree.node sl pl vl ll lr)) (hwr : HasWF (Tree.node sr pr vr rl rr))
    (hc : pr.net ++ [c] <+: pl.net) (hfr : orLpm (Tree.node sr pr vr rl rr) aR = aR) :
    Pushes uOk uSem uNu (uExtend aL aR (uFirstR (.node sl pl vl ll lr) pr rl rr))
      (unionS (annOf (Tree.node sr pr vr rl rr).slotEntries aR) (annOf (Tree.node sl pl vl ll lr).slotEntries aL)
        (Tree.node sl pl vl ll lr).slotEntries (rl.slotEntries ++ rr.slotEntries))
      ((Tree.node sl pl vl ll lr).size + rl.size + rr.size) := by
  obtain ⟨_, url, urr⟩ := under_root hwr
  have ul := (under_root hwl).1.mono hc
  have hann := fun a ha => (lpm_side_fold hwr c (ul a ha) hfr).symm
  rw [uFirstR_eq hwl hwr hc]
  cases c
  · rw [if_neg (by simp), uExtend_append, unionS_right_last (sep_sides ul url (under_nil _) urr)]
    exact ((uOnlyR_spec _ aL aR hwr.child.2 (Free.other_side true urr ul)).append
      (uNext_spec _ rl aL aR hwl hwr.child.1)).cast
      (congrArg (· ++ _) (unionS_congr hann (fun _ _ => rfl))) (by omega)
  · rw [if_pos rfl, uExtend_append, unionS_right_first (fun y hy x hx => Spec.keyLt_of_sides (url y hy) (ul x hx))]
    exact ((uNext_spec _ rr aL aR hwl hwr.child.2).append
      (uOnlyR_spec _ aL aR hwr.child.1 (Free.other_side false url ul))).cast
      (congrArg (_ ++ ·) (unionS_congr hann (fun _ _ => rfl))) (by omega)
end first

theorem uStep_ok (e : UEntry w L R) (h : uOk e) : Unfolds uOk uSem uNu UItem.view (uStep e) (uSem e) (uNu e) := by
  obtain ⟨idx, aL, aR⟩ := e
  obtain ⟨hwl, hwr, hrel⟩ := h
  cases idx with
  | both l r =>
    obtain ⟨sl, pl, vl, ll, lr, sr, pr, vr, rl, rr, rfl, rfl, hnet⟩ := hrel.1.nodes
    exact ((uNext_spec lr rr aL aR hwl.child.2 hwr.child.2).append (uNext_spec ll rl aL aR hwl.child.1 hwr.child.1)).unfolds
      (unionS_both hwl hwr hnet hrel.2.1 hrel.2.2) (size_both_lt ..)
  | firstL l r =>
    obtain ⟨sl, pl, vl, ll, lr, sr, pr, vr, rl, rr, rfl, rfl, hnet⟩ := hrel.1.nodes
    have hside := Pfx.side_prefix hnet.1 hnet.2
    exact (uFirstL_spec aL aR hwl hwr hside hrel.2).unfolds (unionS_above ((under_root hwr).1.mono hside))
      (size_above_lt ..)
  | firstR l r =>
    obtain ⟨sr, pr, vr, rl, rr, sl, pl, vl, ll, lr, rfl, rfl, hnet⟩ := hrel.1.nodes
    have hside := Pfx.side_prefix hnet.1 hnet.2
    exact (uFirstR_spec aL aR hwl hwr hside hrel.2).unfolds (unionS_below ((under_root hwl).1.mono hside))
      (by simp only [uNu, uL, uR, Tree.size]; omega)
  | onlyL l =>
    cases l with
    | nil => exact absurd rfl hrel
    | node sl pl vl ll lr =>
      show Unfolds uOk uSem uNu UItem.view
        (uItem pl (slotVal (.node sl pl vl ll lr)) none aL aR, uExtend aL aR (onlyChildren .onlyL ll lr)) _ _
      rw [onlyChildren_eq, uExtend_append]
      exact ((uOnlyL_spec [] aL aR hwl.child.2 (Free.nil_right _)).append (uOnlyL_spec [] aL aR hwl.child.1 (Free.nil_right _))).unfolds
        (by rw [uSem_onlyL, slotEntries_node, List.map_append, List.map_append, List.append_assoc,
              ← own_left (B := []) (aL := aL) (ll := ll) (lr := lr) rfl]; rfl)
        (size_only_lt sl pl vl ll lr)
  | onlyR r =>
    cases r with
    | nil => exact absurd rfl hrel
    | node sr pr vr rl rr =>
      show Unfolds uOk uSem uNu UItem.view
        (uItem pr none (slotVal (.node sr pr vr rl rr)) aL aR, uExtend aL aR (onlyChildren .onlyR rl rr)) _ _
      rw [onlyChildren_eq, uExtend_append]
      exact ((uOnlyR_spec [] aL aR hwr.child.2 (Free.nil_right _)).append (uOnlyR_spec [] aL aR hwr.child.1 (Free.nil_right _))).unfolds
        (by rw [uSem_onlyR, slotEntries_node, List.map_append, List.map_append, List.append_assoc,
              ← own_right (A := []) (aR := aR) (rl := rl) (rr := rr) rfl]; rfl)
        (Nat.le_trans (size_only_lt sr pr vr rl rr) (Nat.le_of_eq (Nat.zero_add _).symm))

theorem union_eq (a : Tree w L) (b : Tree w R) (hwa : HasWF a) (hwb : HasWF b) :
    (union a b).filterMap UItem.view =
      unionS (annOf b.slotEntries none) (annOf a.slotEntries none) a.slotEntries b.slotEntries :=
  run_unfolds uStep UItem.view uStep_ok (uNext_spec a b none none hwa hwb) (by unfold fuelFor; omega)

/-! ### facts about the definitions that no proof uses -/

theorem annOf_nil {T : Type} (ann : Lpm w T) (p : Pfx w) : annOf ([] : KL w T) ann p = ann := rfl

theorem orLpm_idem' {T : Type} (t : Tree w T) (ann : Lpm w T) : orLpm t (orLpm t ann) = orLpm t ann :=
  orLpm_idem t ann

theorem under_append {T : Type} {k : List Bool} {A B : KL w T} (ha : Under k A) (hb : Under k B) : Under k (A ++ B) :=
  fun x hx => (List.mem_append.1 hx).elim (ha x) (hb x)

theorem uExtend_onlyL (aL : Lpm w L) (aR : Lpm w R) (t : Tree w L) :
    uExtend aL aR [(.onlyL t : UIdx w L R)] = [(.onlyL t, orLpm t aL, aR)] := rfl

theorem uExtend_onlyR (aL : Lpm w L) (aR : Lpm w R) (t : Tree w R) :
    uExtend aL aR [(.onlyR t : UIdx w L R)] = [(.onlyR t, aL, orLpm t aR)] := rfl

theorem uExtend_cons_onlyL (aL : Lpm w L) (aR : Lpm w R) (t : Tree w L) (xs : List (UIdx w L R)) :
    uExtend aL aR ((.onlyL t : UIdx w L R) :: xs) = (.onlyL t, orLpm t aL, aR) :: uExtend aL aR xs := rfl

theorem uExtend_cons_onlyR (aL : Lpm w L) (aR : Lpm w R) (t : Tree w R) (xs : List (UIdx w L R)) :
    uExtend aL aR ((.onlyR t : UIdx w L R) :: xs) = (.onlyR t, aL, orLpm t aR) :: uExtend aL aR xs := rfl

theorem uExtend_nil (aL : Lpm w L) (aR : Lpm w R) : uExtend aL aR ([] : List (UIdx w L R)) = [] := rfl

end SetOps
