import PT.Lemmas.Bits
import PT.Lemmas.Entries
import PT.Lemmas.KeyOrder
/-!
# Well-formedness of the trie and the geometry of descents

`WF k t`: every prefix stored in `t` extends the key `k`; below a node with prefix `p` the left subtree
lives under `net p ++ [false]`, the right one under `net p ++ [true]`.  The map's root satisfies `WF [] root`.
`dirCase` classifies once what `getDir` / `dirIns` answer in each geometric situation, and `child_induction`
hands out the hypothesis for `child l r b`, so that the descent proofs do not distinguish left from right.
-/

namespace Tree
variable {w : Nat} {V : Type}
open Pfx

def WF : List Bool → Tree w V → Prop
  | _, nil => True
  | k, node _ p _ l r => k <+: p.net ∧ WF (p.net ++ [false]) l ∧ WF (p.net ++ [true]) r

theorem WF.mono {k k' : List Bool} {t : Tree w V} (h : WF k t) (hk : k' <+: k) : WF k' t := by
  cases t with
  | nil => trivial
  | node s p v l r => exact ⟨hk.trans h.1, h.2.1, h.2.2⟩

theorem WF.up {k : List Bool} {p : Pfx w} {b : Bool} {t : Tree w V} (hk : k <+: p.net)
    (h : WF (p.net ++ [b]) t) : WF k t :=
  WF.mono h (hk.trans (List.prefix_append _ _))

theorem WF.mem_entries {k : List Bool} {t : Tree w V} (h : WF k t) {e : Pfx w × V}
    (he : e ∈ t.entries) : k <+: e.1.net := by
  induction t generalizing k with
  | nil => cases he
  | node s p v l r ihl ihr =>
    rcases mem_entries_node.1 he with he | he | he
    · exact (mem_own.1 he).2 ▸ h.1
    · exact h.1.trans ((List.prefix_append _ _).trans (ihl h.2.1 he))
    · exact h.1.trans ((List.prefix_append _ _).trans (ihr h.2.2 he))

section
variable {k : List Bool} {s : Nat} {p : Pfx w} {v : Option V} {l r : Tree w V}

theorem WF.self (h : WF k (node s p v l r)) : WF p.net (node s p v l r) :=
  ⟨List.prefix_refl _, h.2.1, h.2.2⟩

theorem WF.of_child (h : WF k (node s p v l r)) (b : Bool) : WF (p.net ++ [b]) (child l r b) := by
  cases b
  · exact h.2.1
  · exact h.2.2

theorem WF.child_node (h : WF k (node s p v l r)) {b : Bool} {cs : Nat} {cp : Pfx w} {cv : Option V}
    {cl cr : Tree w V} (hc : child l r b = node cs cp cv cl cr) : p.net ++ [b] <+: cp.net :=
  (hc ▸ h.of_child b : WF _ (node cs cp cv cl cr)).1

theorem WF.mem_child_entries (h : WF k (node s p v l r)) (b : Bool) {e : Pfx w × V}
    (he : e ∈ (child l r b).entries) : p.net ++ [b] <+: e.1.net := WF.mem_entries (WF.of_child h b) he

theorem WF.setChild (hwf : WF k (node s p v l r)) {b : Bool} {c : Tree w V} (hc : WF (p.net ++ [b]) c) :
    WF k (setChild s p v l r b c) := by
  cases b
  · exact ⟨hwf.1, hc, hwf.2.2⟩
  · exact ⟨hwf.1, hwf.2.1, hc⟩

theorem WF.child_key_ne (h : WF k (node s p v l r)) (b : Bool) {e : Pfx w × V}
    (he : e ∈ (child l r b).entries) : e.1.net ≠ p.net :=
  List.ne_of_snoc_prefix (h.mem_child_entries b he)

end

theorem WF.pfx {k : List Bool} {t : Tree w V} (h : WF k t) {p : Pfx w} (hp : t.pfx? = some p) :
    k <+: p.net := by
  cases t with
  | nil => simp [pfx?] at hp
  | node s p' v l r => simp [pfx?] at hp; subst hp; exact h.1

theorem child_induction {motive : Tree w V → Prop} (nil : motive nil)
    (node : ∀ s p v l r, (∀ b, motive (child l r b)) → motive (node s p v l r)) : ∀ t, motive t
  | .nil => nil
  | .node s p v l r => node s p v l r (fun b => by
      cases b
      · exact child_induction nil node l
      · exact child_induction nil node r)

/-- The situation of `q` at a node `p l r`; `b` is the side of `q` below `p`, `cp` the prefix of the
child on that side; `hi`, `hg` are the answers of the two descents.  Proofs take the fields they need
by name: `match dirCase p l r q with | .enter (hi := hi) (hch := hch) .. => …`. -/
inductive DirCase (p : Pfx w) (l r : Tree w V) (q : Pfx w) : Prop
  | reached (hi : dirIns p l r q = .reached) (hg : getDir p l r q = .reached) (hpq : p.net = q.net)
  | enter (b : Bool) (hi : dirIns p l r q = .enter b) (hg : getDir p l r q = .enter b)
      (hne : p.net ≠ q.net) (hb : toRight p q = b) (cs : Nat) (cp : Pfx w) (cv : Option V) (cl cr : Tree w V)
      (hch : child l r b = node cs cp cv cl cr) (hcq : cp.net <+: q.net)
  | newLeaf (b : Bool) (hi : dirIns p l r q = .newLeaf b) (hg : getDir p l r q = .missing)
      (hne : p.net ≠ q.net) (hb : toRight p q = b) (hch : child l r b = nil)
  | newChild (b : Bool) (cp : Pfx w) (hi : dirIns p l r q = .newChild b (toRight q cp))
      (hg : getDir p l r q = .missing) (hne : p.net ≠ q.net) (hb : toRight p q = b)
      (cs : Nat) (cv : Option V) (cl cr : Tree w V) (hch : child l r b = node cs cp cv cl cr)
      (h1 : ¬ cp.net <+: q.net) (h2 : q.net <+: cp.net)
  | newBranch (b : Bool) (cp : Pfx w) (hi : dirIns p l r q = .newBranch (q.lcp cp) b (toRight (q.lcp cp) q))
      (hg : getDir p l r q = .missing) (hne : p.net ≠ q.net) (hb : toRight p q = b)
      (cs : Nat) (cv : Option V) (cl cr : Tree w V) (hch : child l r b = node cs cp cv cl cr)
      (h1 : ¬ cp.net <+: q.net) (h2 : ¬ q.net <+: cp.net)

theorem dirCase (p : Pfx w) (l r : Tree w V) (q : Pfx w) : DirCase p l r q := by
  by_cases he : p.eqv q = true
  · exact .reached (by simp [dirIns, he]) (by simp [getDir, he]) ((eqv_iff p q).1 he)
  · have hne : p.net ≠ q.net := fun e => he ((eqv_iff p q).2 e)
    cases hch : child l r (toRight p q) with
    | nil =>
      exact .newLeaf _ (by simp [dirIns, he, hch, pfx?, dirInsChild]) (by simp [getDir, he, hch, pfx?, dirChild])
        hne rfl hch
    | node cs cp cv cl cr =>
      by_cases h1 : cp.contains q = true
      · exact .enter _ (by simp [dirIns, he, hch, pfx?, dirInsChild, h1]) (by simp [getDir, he, hch, pfx?, dirChild, h1])
          hne rfl cs cp cv cl cr hch ((contains_iff cp q).1 h1)
      · have hg : getDir p l r q = .missing := by simp [getDir, he, hch, pfx?, dirChild, h1]
        have h1' : ¬ cp.net <+: q.net := fun h => h1 ((contains_iff cp q).2 h)
        by_cases h2 : q.contains cp = true
        · exact .newChild _ cp (by simp [dirIns, he, hch, pfx?, dirInsChild, h1, h2]) hg hne rfl cs cv cl cr hch h1'
            ((contains_iff q cp).1 h2)
        · exact .newBranch _ cp (by simp [dirIns, he, hch, pfx?, dirInsChild, h1, h2]) hg hne rfl cs cv cl cr hch h1'
            (fun h => h2 ((contains_iff q cp).2 h))

theorem getDir_eq_of_dirIns (p : Pfx w) (l r : Tree w V) (q : Pfx w) :
    getDir p l r q = (match dirIns p l r q with
      | .reached => .reached
      | .enter b => .enter b
      | _ => .missing) := by
  cases dirCase p l r q <;> simp only [*]

section
variable {p : Pfx w} {l r : Tree w V} {q : Pfx w}

theorem getDir_of_net_eq (h : p.net = q.net) : getDir p l r q = .reached := by
  simp [getDir, (eqv_iff p q).2 h]

theorem dirIns_of_net_eq (h : p.net = q.net) : dirIns p l r q = .reached := by
  simp [dirIns, (eqv_iff p q).2 h]

theorem getDir_reached (h : getDir p l r q = .reached) : p.net = q.net := by
  match dirCase p l r q with
  | .reached (hpq := hpq) .. => exact hpq
  | .enter (hg := hg) .. | .newLeaf (hg := hg) .. | .newChild (hg := hg) .. | .newBranch (hg := hg) .. =>
    rw [hg] at h; cases h

theorem getDir_missing (h : getDir p l r q = .missing) :
    p.net ≠ q.net ∧ ∀ s cp cv cl cr, child l r (toRight p q) = node s cp cv cl cr → ¬ cp.net <+: q.net := by
  match dirCase p l r q with
  | .reached (hg := hg) .. | .enter (hg := hg) .. => rw [hg] at h; cases h
  | .newLeaf (hne := hne) (hb := hb) (hch := hch) .. =>
    subst hb; exact ⟨hne, fun _ _ _ _ _ hc => by rw [hch] at hc; cases hc⟩
  | .newChild (hne := hne) (hb := hb) (hch := hch) (h1 := h1) ..
  | .newBranch (hne := hne) (hb := hb) (hch := hch) (h1 := h1) .. =>
    subst hb; exact ⟨hne, fun _ _ _ _ _ hc => by rw [hch] at hc; cases hc; exact h1⟩

end

theorem getDir_enter {p : Pfx w} {l r : Tree w V} {q : Pfx w} {b : Bool}
    (h : getDir p l r q = .enter b) :
    p.net ≠ q.net ∧ b = toRight p q ∧
      ∃ s cp cv cl cr, child l r b = node s cp cv cl cr ∧ cp.net <+: q.net := by
  match dirCase p l r q with
  | .enter (hg := hg) (hne := hne) (hb := hb) (hch := hch) (hcq := hcq) .. =>
    rw [hg] at h; cases h; exact ⟨hne, hb.symm, _, _, _, _, _, hch, hcq⟩
  | .reached (hg := hg) .. | .newLeaf (hg := hg) .. | .newChild (hg := hg) .. | .newBranch (hg := hg) .. =>
    rw [hg] at h; cases h

theorem dirIns_newBranch {p : Pfx w} {l r : Tree w V} {q : Pfx w} {b pr : Bool} {bp : Pfx w}
    (h : dirIns p l r q = .newBranch bp b pr) :
    p.net ≠ q.net ∧ b = toRight p q ∧
      ∃ s cp cv cl crr, child l r b = node s cp cv cl crr ∧ ¬ cp.net <+: q.net ∧ ¬ q.net <+: cp.net ∧
        bp = q.lcp cp ∧ pr = toRight bp q := by
  match dirCase p l r q with
  | .newBranch (hi := hi) (hne := hne) (hb := hb) (hch := hch) (h1 := h1) (h2 := h2) .. =>
    rw [hi] at h; cases h; exact ⟨hne, hb.symm, _, _, _, _, _, hch, h1, h2, rfl, rfl⟩
  | .reached (hi := hi) .. | .enter (hi := hi) .. | .newLeaf (hi := hi) .. | .newChild (hi := hi) .. =>
    rw [hi] at h; cases h

section zones
variable {k : List Bool} {t : Tree w V} {q : Pfx w}

theorem WF.contains_false (h : WF k t) (hk : ¬ k <+: q.net) : ∀ e ∈ t.entries, e.1.contains q = false :=
  fun _ he => Bool.eq_false_iff.2 fun hc => hk ((h.mem_entries he).trans ((contains_iff _ _).1 hc))

theorem WF.not_covered (h : WF k t) (h1 : ¬ k <+: q.net) (h2 : ¬ q.net <+: k) :
    ∀ e ∈ t.entries, ¬ q.net <+: e.1.net := fun _ he hq =>
  (List.prefix_or_prefix_of_prefix (h.mem_entries he) hq).elim h1 h2

end zones

section node
variable {k : List Bool} {s : Nat} {p : Pfx w} {v : Option V} {l r : Tree w V} {q : Pfx w}

theorem own_eqv_false (hne : p.net ≠ q.net) : ∀ e ∈ own p v, e.1.eqv q = false := fun _ he =>
  Bool.eq_false_iff.2 fun h => hne ((mem_own.1 he).2 ▸ (eqv_iff _ _).1 h)

theorem own_eqv (h : p.net = q.net) : ∀ e ∈ own p v, e.1.eqv q = true := fun _ he =>
  (eqv_iff _ _).2 ((mem_own.1 he).2 ▸ h)

theorem filter_key_iff {es : List (Pfx w × V)} {e : Pfx w × V} :
    e ∈ es.filter (fun e => !e.1.eqv q) ↔ e ∈ es ∧ e.1.net ≠ q.net := by
  rw [List.mem_filter, Bool.not_eq_true', Bool.eq_false_iff, ne_eq, eqv_iff]

/-- the descent enters the child that holds an entry covering `q`; every statement below about what a
child cannot hold is this one read backwards -/
theorem getDir_of_covering (hwf : WF k (node s p v l r)) {b : Bool} {e : Pfx w × V}
    (he : e ∈ (child l r b).entries) (hc : e.1.net <+: q.net) : getDir p l r q = .enter b := by
  have hside : p.net ++ [b] <+: q.net := (hwf.mem_child_entries b he).trans hc
  have hb := toRight_of_prefix hside
  have hroot : ∀ {cs cp cv cl cr}, child l r b = node cs cp cv cl cr → cp.net <+: q.net := fun hch =>
    ((hch ▸ hwf.of_child b).self.mem_entries (hch ▸ he)).trans hc
  cases hg : getDir p l r q with
  | reached => exact absurd (getDir_reached hg ▸ hside) (List.not_snoc_prefix _ _)
  | enter b' => rw [(getDir_enter hg).2.1, hb]
  | missing =>
    cases hch : child l r b with
    | nil => rw [hch] at he; cases he
    | node cs cp cv cl cr => exact absurd (hroot hch) ((getDir_missing hg).2 cs cp cv cl cr (hb.symm ▸ hch))

theorem WF.contains_of_ne_enter (hwf : WF k (node s p v l r)) {b : Bool} (hg : getDir p l r q ≠ .enter b) :
    ∀ e ∈ (child l r b).entries, e.1.contains q = false := fun _ he =>
  Bool.eq_false_iff.2 fun hc => hg (getDir_of_covering hwf he ((contains_iff _ _).1 hc))

theorem WF.contains_reached (hwf : WF k (node s p v l r)) (hg : getDir p l r q = .reached) (b : Bool) :
    ∀ e ∈ (child l r b).entries, e.1.contains q = false := hwf.contains_of_ne_enter (hg ▸ nofun)

theorem WF.contains_enter (hwf : WF k (node s p v l r)) {b : Bool} (hg : getDir p l r q = .enter b) :
    ∀ e ∈ (child l r (!b)).entries, e.1.contains q = false :=
  hwf.contains_of_ne_enter (hg ▸ fun h => by cases b <;> cases h)

theorem WF.contains_missing (hwf : WF k (node s p v l r)) (hg : getDir p l r q = .missing) (b : Bool) :
    ∀ e ∈ (child l r b).entries, e.1.contains q = false := hwf.contains_of_ne_enter (hg ▸ nofun)

theorem WF.eqv_side (hwf : WF k (node s p v l r)) {b : Bool} (hside : p.net ++ [b] <+: q.net) :
    (∀ e ∈ own p v, e.1.eqv q = false) ∧ (∀ e ∈ (child l r (!b)).entries, e.1.eqv q = false) :=
  ⟨own_eqv_false (List.ne_of_snoc_prefix hside).symm, fun e he =>
    eqv_false_of_contains ((hwf.of_child _).contains_false (List.other_side hside).1 e he)⟩

theorem WF.eqv_reached (hwf : WF k (node s p v l r)) (hg : getDir p l r q = .reached) (b : Bool) :
    ∀ e ∈ (child l r b).entries, e.1.eqv q = false :=
  fun e he => eqv_false_of_contains (hwf.contains_reached hg b e he)

theorem WF.eqv_enter (hwf : WF k (node s p v l r)) {b : Bool} (hg : getDir p l r q = .enter b) :
    (∀ e ∈ own p v, e.1.eqv q = false) ∧ (∀ e ∈ (child l r (!b)).entries, e.1.eqv q = false) :=
  ⟨own_eqv_false (getDir_enter hg).1, fun e he => eqv_false_of_contains (hwf.contains_enter hg e he)⟩

theorem WF.eqv_missing (hwf : WF k (node s p v l r)) (hg : getDir p l r q = .missing) :
    ∀ e ∈ (node s p v l r).entries, e.1.eqv q = false := fun e he => by
  rcases (mem_entries_children true).1 he with h | h | h
  · exact own_eqv_false (fun hpq => by rw [getDir_of_net_eq hpq] at hg; cases hg) e h
  · exact eqv_false_of_contains (hwf.contains_missing hg _ e h)
  · exact eqv_false_of_contains (hwf.contains_missing hg _ e h)

end node

theorem WF.eqv_children {k : List Bool} {s : Nat} {p : Pfx w} {v : Option V} {l r : Tree w V}
    (hwf : WF k (node s p v l r)) (b : Bool) : ∀ e ∈ (child l r b).entries, e.1.eqv p = false :=
  fun _ he => Bool.eq_false_iff.2 fun hq => hwf.child_key_ne b he ((eqv_iff _ _).1 hq)

section
variable {k : List Bool} {s : Nat} {p : Pfx w} {v : Option V} {l r : Tree w V} (h : WF k (node s p v l r))
  {e : Pfx w × V}
include h

theorem WF.mem_own_of_key (he : e ∈ (node s p v l r).entries) (hk : e.1.net = p.net) : e ∈ own p v := by
  rcases mem_entries_node.1 he with h' | h' | h'
  · exact h'
  · exact absurd hk (h.child_key_ne false h')
  · exact absurd hk (h.child_key_ne true h')

theorem WF.mem_child_iff (c : Bool) :
    e ∈ (child l r c).entries ↔ e ∈ (node s p v l r).entries ∧ p.net ++ [c] <+: e.1.net := by
  refine ⟨fun he => ⟨(mem_entries_children c).2 (.inr (.inl he)), WF.mem_child_entries h c he⟩, ?_⟩
  rintro ⟨he, hc⟩
  rcases (mem_entries_children c).1 he with h' | h' | h'
  · rw [(mem_own.1 h').2] at hc
    exact absurd hc (List.not_snoc_prefix _ _)
  · exact h'
  · have := WF.mem_child_entries h (!c) h'
    exact absurd this (List.other_side hc).1

end

section congr
variable {q q' : Pfx w} (h : q.net = q'.net)
include h

theorem dirIns_congr (p : Pfx w) (l r : Tree w V) : dirIns p l r q = dirIns p l r q' := by
  unfold dirIns dirInsChild
  rw [eqv_congr h, toRight_congr h]
  cases (child l r (toRight p q')).pfx? with
  | none => rfl
  | some cp => simp only [contains_congr h, contains_congr_left h, toRight_congr h, toRight_congr_left h, lcp_congr h]

theorem getDir_congr (p : Pfx w) (l r : Tree w V) : getDir p l r q = getDir p l r q' := by
  rw [getDir_eq_of_dirIns, getDir_eq_of_dirIns, dirIns_congr h]

end congr

end Tree
