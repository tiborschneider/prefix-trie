import PT.Bits
/-!
# Laws of the prefix algebra, through the network part `net`

All lemmas are for every width `w` and every (valid, by construction) prefix, host bits arbitrary.
Bit vectors are compared through `top x n`, the list of their first `n` bits (`net p = top p.repr p.len`),
and both `mask_from_prefix_len` and the selector of `is_bit_set` are read through `!0 >> n`.
-/
namespace Pfx
variable {w : Nat}

def top (x : BitVec w) (n : Nat) : List Bool := (List.range n).map (fun i => x.getMsbD i)

theorem net_eq_top (p : Pfx w) : p.net = top p.repr p.len := rfl

@[simp] theorem top_length (x : BitVec w) (n : Nat) : (top x n).length = n := by
  simp only [top, List.length_map, List.length_range]

theorem top_eq_iff {x y : BitVec w} {n : Nat} :
    top x n = top y n ↔ ∀ i, i < n → x.getMsbD i = y.getMsbD i := by
  simp only [top, List.map_inj_left, List.mem_range]

theorem top_inj {x y : BitVec w} : top x w = top y w ↔ x = y :=
  top_eq_iff.trans ⟨BitVec.eq_of_getMsbD_eq, fun h _ _ => h ▸ rfl⟩

theorem take_top (x : BitVec w) (k n : Nat) : (top x n).take k = top x (min k n) := by
  simp only [top, ← List.map_take, List.take_range]

theorem top_prefix_iff {x y : BitVec w} {m n : Nat} :
    top x m <+: top y n ↔ m ≤ n ∧ top x m = top y m := by
  rw [List.prefix_iff_eq_take, top_length, take_top]
  constructor
  · intro h
    have hl : m ≤ n := by
      have := congrArg List.length h
      rw [top_length, top_length] at this
      exact Nat.le_trans (Nat.le_of_eq this) (Nat.min_le_right m n)
    exact ⟨hl, by rwa [Nat.min_eq_left hl] at h⟩
  · rintro ⟨hl, h⟩; rwa [Nat.min_eq_left hl]

theorem getMsbD_onesShift (n i : Nat) :
    (BitVec.allOnes w >>> n).getMsbD i = (decide (n ≤ i) && decide (i < w)) := by
  rw [BitVec.getMsbD_ushiftRight, BitVec.getMsbD_allOnes]
  by_cases hw : i < w
  · have : i - n < w := Nat.lt_of_le_of_lt (Nat.sub_le i n) hw
    simp only [hw, this, decide_true, Bool.true_and, Bool.and_true, ← decide_not, Nat.not_lt]
  · rw [decide_eq_false hw, Bool.false_and, Bool.and_false]

theorem onesShr_eq (n : Nat) : onesShr w n = BitVec.allOnes w >>> n := by
  unfold onesShr
  by_cases h : n < w
  · rw [if_pos h]
  · rw [if_neg h, BitVec.ushiftRight_eq_zero (Nat.le_of_not_lt h)]

/-- `mask_from_prefix_len` special-cases `len = w` (in Rust `>> w` overflows) and `len = 0`; on `BitVec`
its general branch covers both -/
theorem maskFromLen_eq (l : Nat) : maskFromLen w l = ~~~ (BitVec.allOnes w >>> l) := by
  unfold maskFromLen
  by_cases h1 : l = w
  · rw [if_pos h1, BitVec.ushiftRight_eq_zero (Nat.le_of_eq h1.symm), BitVec.not_zero]
  · rw [if_neg h1]
    by_cases h2 : l = 0
    · rw [if_pos h2, h2, BitVec.ushiftRight_zero, BitVec.not_allOnes]
    · rw [if_neg h2]

theorem maskFromLenRaw_eq_ite (l : Nat) :
    maskFromLenRaw w l = if l ≤ w then some (maskFromLen w l) else none := by
  unfold maskFromLenRaw maskFromLen
  by_cases h1 : l = w
  · rw [if_pos h1, if_pos h1, if_pos (Nat.le_of_eq h1)]
  · by_cases h2 : l = 0
    · rw [if_neg h1, if_pos h2, if_neg h1, if_pos h2, if_pos (h2 ▸ Nat.zero_le w)]
    · rw [if_neg h1, if_neg h2, if_neg h1, if_neg h2]
      by_cases h3 : l < w
      · rw [if_pos h3, if_pos (Nat.le_of_lt h3)]
      · rw [if_neg h3, if_neg fun hle => h3 (Nat.lt_of_le_of_ne hle h1)]

theorem getMsbD_maskFromLen (l i : Nat) :
    (maskFromLen w l).getMsbD i = (decide (i < l) && decide (i < w)) := by
  rw [maskFromLen_eq, BitVec.getMsbD_not, getMsbD_onesShift, Bool.and_comm (decide (i < l))]
  by_cases hw : i < w
  · simp only [hw, decide_true, Bool.true_and, Bool.and_true, ← decide_not, Nat.not_le]
  · rw [decide_eq_false hw, Bool.false_and, Bool.false_and]

theorem getMsbD_and_maskFromLen (x : BitVec w) (l i : Nat) :
    (x &&& maskFromLen w l).getMsbD i = (x.getMsbD i && decide (i < l)) := by
  rw [BitVec.getMsbD_and, getMsbD_maskFromLen]
  by_cases h : i < w
  · rw [decide_eq_true h, Bool.and_true]
  · rw [BitVec.getMsbD_of_ge x i (Nat.le_of_not_lt h), Bool.false_and, Bool.false_and]

theorem top_eq_append {x y : BitVec w} {l : Nat} {c : Bool} (hl : l ≤ w)
    (h : ∀ i, i < w → y.getMsbD i = if i < l then x.getMsbD i else c) :
    top y w = top x l ++ List.replicate (w - l) c := by
  apply List.ext_getElem (by
    rw [top_length, List.length_append, top_length, List.length_replicate, Nat.add_sub_cancel' hl])
  intro i h1 _
  simp only [top_length] at h1
  simp only [top, List.getElem_map, List.getElem_range, h i h1, List.getElem_append,
    List.length_map, List.length_range, List.getElem_replicate]
  split <;> rfl

theorem top_and_maskFromLen (x : BitVec w) {l : Nat} (hl : l ≤ w) :
    top (x &&& maskFromLen w l) w = top x l ++ List.replicate (w - l) false :=
  top_eq_append hl fun i _ => by rw [getMsbD_and_maskFromLen]; by_cases h : i < l <;> simp [h]

theorem and_maskFromLen_eq_iff {x y : BitVec w} {l : Nat} (hl : l ≤ w) :
    x &&& maskFromLen w l = y &&& maskFromLen w l ↔ top x l = top y l := by
  rw [← top_inj, top_and_maskFromLen x hl, top_and_maskFromLen y hl, List.append_left_inj]

theorem contains_iff (a b : Pfx w) : a.contains b = true ↔ a.net <+: b.net := by
  unfold contains
  rw [net_eq_top, net_eq_top, top_prefix_iff]
  by_cases h : a.len > b.len
  · rw [if_pos h]
    exact ⟨fun h' => Bool.noConfusion h', fun h' => absurd h'.1 (Nat.not_le.2 h)⟩
  · rw [if_neg h, beq_iff_eq, mask, and_maskFromLen_eq_iff a.hlen, eq_comm]
    exact (and_iff_right (Nat.le_of_not_gt h)).symm

theorem mask_eq_iff_net {a b : Pfx w} (hl : a.len = b.len) : a.mask = b.mask ↔ a.net = b.net := by
  rw [mask, mask, ← hl, and_maskFromLen_eq_iff a.hlen, net_eq_top, net_eq_top, ← hl]

theorem net_length (p : Pfx w) : p.net.length = p.len := top_length _ _

theorem len_le_of_prefix {p q : Pfx w} (h : p.net <+: q.net) : p.len ≤ q.len := by
  have := h.length_le
  rwa [net_length, net_length] at this

theorem len_eq_of_net_eq {p q : Pfx w} (h : p.net = q.net) : p.len = q.len := by
  rw [← net_length p, h, net_length]

theorem net_ne_of_len_ne {p q : Pfx w} (h : p.len ≠ q.len) : p.net ≠ q.net :=
  fun e => h (len_eq_of_net_eq e)

theorem _root_.SetOps.len_ne_of_proper {x y : Pfx w} (h : x.net <+: y.net) (hne : x.net ≠ y.net) : x.len ≠ y.len :=
  fun hl => hne (h.eq_of_length (by rw [net_length, net_length, hl]))

theorem eqv_iff (a b : Pfx w) : a.eqv b = true ↔ a.net = b.net := by
  unfold eqv
  rw [Bool.and_eq_true, beq_iff_eq, beq_iff_eq]
  constructor
  · rintro ⟨hm, hl⟩; exact (mask_eq_iff_net hl).1 hm
  · intro h
    exact ⟨(mask_eq_iff_net (len_eq_of_net_eq h)).2 h, len_eq_of_net_eq h⟩

theorem eqv_false_of_contains {a q : Pfx w} (h : a.contains q = false) : a.eqv q = false :=
  Bool.eq_false_iff.2 fun he => by
    rw [(contains_iff a q).2 ((eqv_iff a q).1 he ▸ List.prefix_refl _)] at h; cases h

theorem _root_.SetOps.maskEq_iff_net {a b : Pfx w} (hl : a.len = b.len) : maskEq a b = true ↔ a.net = b.net := by
  unfold maskEq
  rw [beq_iff_eq, mask_eq_iff_net hl]

/-- the guard of `find` -/
theorem len_lt_and_contains_iff (q p : Pfx w) :
    (decide (q.len < p.len) && q.contains p) = true ↔ q.net <+: p.net ∧ q.net ≠ p.net := by
  simp only [Bool.and_eq_true, decide_eq_true_eq, contains_iff]
  exact ⟨fun ⟨hl, hq⟩ => ⟨hq, net_ne_of_len_ne (Nat.ne_of_lt hl)⟩, fun ⟨hq, hne⟩ =>
    ⟨Nat.lt_of_le_of_ne (len_le_of_prefix hq) (SetOps.len_ne_of_proper hq hne), hq⟩⟩

theorem net_getElem? (p : Pfx w) (i : Nat) :
    p.net[i]? = if i < p.len then some (p.repr.getMsbD i) else none := by
  unfold net
  by_cases h : i < p.len
  · rw [if_pos h, List.getElem?_map, List.getElem?_range h]; rfl
  · rw [if_neg h, List.getElem?_eq_none]
    rw [List.length_map, List.length_range]; exact Nat.le_of_not_lt h

theorem getMsbD_mask (p : Pfx w) (i : Nat) :
    p.mask.getMsbD i = (p.repr.getMsbD i && decide (i < p.len)) :=
  getMsbD_and_maskFromLen _ _ i

theorem ne_zero_iff (x : BitVec w) : (x != 0#w) = true ↔ ∃ i, x.getMsbD i = true := by
  rw [bne_iff_ne]
  constructor
  · intro h
    apply Classical.byContradiction
    intro hn
    exact h (BitVec.eq_of_getMsbD_eq fun i _ => by
      rw [BitVec.getMsbD_zero]; exact Bool.eq_false_iff.2 fun hx => hn ⟨i, hx⟩)
  · rintro ⟨i, hx⟩ rfl
    rw [BitVec.getMsbD_zero] at hx; cases hx

theorem getMsbD_bit (i j : Nat) :
    (onesShr w i ^^^ onesShr w (i + 1)).getMsbD j = (decide (j = i) && decide (j < w)) := by
  rw [onesShr_eq, onesShr_eq, BitVec.getMsbD_xor, getMsbD_onesShift, getMsbD_onesShift]
  rcases Nat.lt_trichotomy j i with h | rfl | h
  · simp [Nat.not_le.2 h, show ¬ i + 1 ≤ j by omega, Nat.ne_of_lt h]
  · simp [Nat.not_succ_le_self]
  · simp [Nat.le_of_lt h, show i + 1 ≤ j from h, Nat.ne_of_gt h]

theorem isBitSet_eq_getMsbD (p : Pfx w) (i : Nat) : p.isBitSet i = p.mask.getMsbD i := by
  rw [Bool.eq_iff_iff, isBitSet, ne_zero_iff]
  simp only [BitVec.getMsbD_and, getMsbD_bit, Bool.and_eq_true, decide_eq_true_eq]
  exact ⟨fun ⟨j, ⟨hj, _⟩, h⟩ => hj ▸ h, fun h => ⟨i, ⟨rfl, BitVec.lt_of_getMsbD h⟩, h⟩⟩

theorem isBitSet_eq (p : Pfx w) (i : Nat) : p.isBitSet i = (p.net[i]?).getD false := by
  rw [isBitSet_eq_getMsbD, getMsbD_mask, net_getElem?]
  by_cases h : i < p.len <;> simp [h]

theorem zero_net : (zero : Pfx w).net = [] := rfl
theorem zero_len : (zero : Pfx w).len = 0 := rfl

theorem fromReprLen_len (r : BitVec w) (l : Nat) (h : l ≤ w) : (fromReprLen r l h).len = l := rfl
theorem fromReprLen_net (r : BitVec w) (l : Nat) (h : l ≤ w) :
    (fromReprLen r l h).net = (List.range l).map (fun i => r.getMsbD i) := rfl

theorem leadingZeros_le (x : BitVec w) : leadingZeros x ≤ w := by
  simpa [leadingZeros] using @List.findIdx_le_length _ (fun i => x.getMsbD i) (List.range w)

theorem le_leadingZeros_iff (x : BitVec w) {k : Nat} (hk : k ≤ w) :
    k ≤ leadingZeros x ↔ ∀ i, i < k → x.getMsbD i = false := by
  unfold leadingZeros
  constructor
  · intro h i hi
    simpa using List.not_of_lt_findIdx (Nat.lt_of_lt_of_le hi h)
  · intro h
    refine Nat.le_of_not_lt fun hlt => ?_
    have := @List.findIdx_getElem _ (fun i => x.getMsbD i) (List.range w)
      (by simpa using Nat.lt_of_lt_of_le hlt hk)
    rw [List.getElem_range, h _ hlt] at this
    cases this

/-- for any `x`, `y`: serves `lcpLen` (masked operands) and `ipnetLcpLen` (raw ones) -/
theorem le_min_leadingZeros_xor_iff (x y : BitVec w) {la lb k : Nat} (hla : la ≤ w) :
    k ≤ min (min (leadingZeros (x ^^^ y)) la) lb ↔ k ≤ la ∧ k ≤ lb ∧ top x k = top y k := by
  rw [Nat.le_min, Nat.le_min, and_assoc, and_left_comm, and_comm (b := k ≤ lb)]
  refine and_congr_right fun hk => and_congr_right fun _ => ?_
  rw [le_leadingZeros_iff _ (Nat.le_trans hk hla), top_eq_iff]
  simp only [BitVec.getMsbD_xor, bne_eq_false_iff_eq]

theorem top_and_maskFromLen_of_le (x : BitVec w) {k l : Nat} (hk : k ≤ l) :
    top (x &&& maskFromLen w l) k = top x k :=
  top_eq_iff.2 fun i hi => by
    rw [getMsbD_and_maskFromLen, decide_eq_true (Nat.lt_of_lt_of_le hi hk), Bool.and_true]

theorem le_lcpLen_iff (a b : Pfx w) (k : Nat) :
    k ≤ lcpLen a b ↔ k ≤ a.len ∧ k ≤ b.len ∧ top a.repr k = top b.repr k := by
  rw [lcpLen, le_min_leadingZeros_xor_iff _ _ a.hlen]
  exact and_congr_right fun ha => and_congr_right fun hb => by
    rw [mask, mask, top_and_maskFromLen_of_le _ ha, top_and_maskFromLen_of_le _ hb]

theorem lcpLen_le_left (a b : Pfx w) : lcpLen a b ≤ a.len :=
  Nat.le_trans (Nat.min_le_left _ _) (Nat.min_le_right _ _)
theorem lcpLen_le_right (a b : Pfx w) : lcpLen a b ≤ b.len := Nat.min_le_right _ _

theorem lcp_len (a b : Pfx w) : (a.lcp b).len = lcpLen a b := rfl

theorem lcp_net (a b : Pfx w) : (a.lcp b).net = a.net.take (lcpLen a b) := by
  have h := lcpLen_le_left a b
  rw [net_eq_top, net_eq_top, take_top, Nat.min_eq_left h]
  exact (top_and_maskFromLen_of_le _ (Nat.le_refl _)).trans (top_and_maskFromLen_of_le _ h)

theorem prefix_lcp_iff (a b : Pfx w) (k : List Bool) :
    k <+: (a.lcp b).net ↔ k <+: a.net ∧ k <+: b.net := by
  rw [lcp_net, List.prefix_take_iff]
  refine and_congr_right fun hk => ?_
  -- a prefix of `a.net` is `top a.repr n` for its length `n ≤ a.len` …
  have hl : k.length ≤ a.len := net_length a ▸ hk.length_le
  have hk' : k = top a.repr k.length :=
    (List.prefix_iff_eq_take.1 hk).trans (by rw [net_eq_top, take_top, Nat.min_eq_left hl])
  generalize k.length = n at hl hk' ⊢
  subst hk'
  -- … so both sides say that `n ≤ b.len` and the first `n` bits of `a` and `b` agree
  rw [le_lcpLen_iff, net_eq_top, top_prefix_iff]
  exact ⟨fun h => h.2, fun h => ⟨hl, h⟩⟩

theorem lcp_prefix_left (a b : Pfx w) : (a.lcp b).net <+: a.net :=
  ((prefix_lcp_iff a b _).1 (List.prefix_refl _)).1

theorem lcp_prefix_right (a b : Pfx w) : (a.lcp b).net <+: b.net :=
  ((prefix_lcp_iff a b _).1 (List.prefix_refl _)).2

theorem lcp_max (a b : Pfx w) (k : List Bool) (ha : k <+: a.net) (hb : k <+: b.net) :
    k <+: (a.lcp b).net :=
  (prefix_lcp_iff a b k).2 ⟨ha, hb⟩

theorem lcp_net_comm (a b : Pfx w) : (a.lcp b).net = (b.lcp a).net :=
  (lcp_max b a _ (lcp_prefix_right a b) (lcp_prefix_left a b)).eq_of_length_le
    (lcp_max a b _ (lcp_prefix_right b a) (lcp_prefix_left b a)).length_le

theorem lcp_host_zero (a b : Pfx w) (i : Nat) (h : lcpLen a b ≤ i) : (a.lcp b).repr.getMsbD i = false := by
  rw [lcp, getMsbD_and_maskFromLen, decide_eq_false (Nat.not_lt.2 h), Bool.and_false]

theorem toRight_eq (p q : Pfx w) : toRight p q = (q.net[p.len]?).getD false := by
  unfold toRight; exact isBitSet_eq q p.len

theorem side_prefix {p q : Pfx w} (hc : p.net <+: q.net) (hne : p.net ≠ q.net) :
    p.net ++ [toRight p q] <+: q.net := by
  obtain ⟨t, ht⟩ := hc
  rw [toRight_eq, ← ht, ← net_length p]
  cases t with
  | nil => exact absurd (by simpa using ht) hne
  | cons x t => simp

theorem toRight_of_prefix {p q : Pfx w} {b : Bool} (h : p.net ++ [b] <+: q.net) : toRight p q = b := by
  rw [toRight_eq]
  obtain ⟨t, ht⟩ := h
  rw [← ht, ← net_length p]
  simp

theorem lcp_sides {a b : Pfx w} (h1 : ¬ a.net <+: b.net) (h2 : ¬ b.net <+: a.net) :
    (a.lcp b).net ++ [toRight (a.lcp b) a] <+: a.net ∧
    (a.lcp b).net ++ [!toRight (a.lcp b) a] <+: b.net := by
  have sa := side_prefix (lcp_prefix_left a b) fun e => h1 (e ▸ lcp_prefix_right a b)
  have sb := side_prefix (lcp_prefix_right a b) fun e => h2 (e ▸ lcp_prefix_left a b)
  -- were both on the same side of the common prefix, it would not be the longest
  have hx : toRight (a.lcp b) b ≠ toRight (a.lcp b) a := fun e =>
    absurd (lcp_max a b _ sa (e ▸ sb)).length_le (by rw [List.length_append]; exact Nat.not_succ_le_self _)
  exact ⟨sa, Bool.eq_not_of_ne hx ▸ sb⟩

section congr
variable {q q' : Pfx w} (h : q.net = q'.net)
include h

theorem eqv_congr (a : Pfx w) : a.eqv q = a.eqv q' := by
  rw [Bool.eq_iff_iff, eqv_iff, eqv_iff, h]

theorem contains_congr (a : Pfx w) : a.contains q = a.contains q' := by
  rw [Bool.eq_iff_iff, contains_iff, contains_iff, h]

theorem contains_congr_left (a : Pfx w) : q.contains a = q'.contains a := by
  rw [Bool.eq_iff_iff, contains_iff, contains_iff, h]

theorem toRight_congr (a : Pfx w) : toRight a q = toRight a q' := by
  rw [toRight_eq, toRight_eq, h]

theorem toRight_congr_left (a : Pfx w) : toRight q a = toRight q' a := by
  rw [toRight_eq, toRight_eq, len_eq_of_net_eq h]

theorem lcp_congr (a : Pfx w) : q.lcp a = q'.lcp a := by
  have := (eqv_iff q q').2 h
  simp only [eqv, Bool.and_eq_true, beq_iff_eq] at this
  simp only [lcp, lcpLen, this.1, this.2]

end congr

end Pfx
